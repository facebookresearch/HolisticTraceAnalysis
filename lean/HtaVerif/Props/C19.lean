import HtaVerif.Model.C19
import HtaVerif.Proofs.Assoc
import HtaVerif.Proofs.ListLemmas
/-!
# C19 — a saved critical-path graph restores to an identical graph

The theorem covers the node-link encoding; pickle, CSV, zip and the extraction directory are
exercised by the correspondence run, not modelled.
-/
namespace Hta.C19

/-- Observational equality of adjacencies (what `graph.adj` iteration shows). -/
def Same (a b : Adj) : Prop := a.nodes = b.nodes ∧ ∀ u ∈ a.nodes, outOf a u = outOf b u

theorem Same.trans {a b c : Adj} (h1 : Same a b) (h2 : Same b c) : Same a c :=
  ⟨h1.1.trans h2.1, fun u hu => (h1.2 u hu).trans (h2.2 u (h1.1 ▸ hu))⟩

theorem outOf_eq (a : Adj) (u : Nat) : outOf a u = (assocGet a.out u).getD [] := rfl

theorem outOf_decode (d : NodeLink) (u : Nat) :
    outOf (decode d) u = if u ∈ d.nodes then (d.links.filter (·.1 == u)).map (·.2) else [] := by
  rw [outOf_eq, decode, assocGet_map_graph]
  split <;> rfl

/-- Restoring what was saved yields the same nodes and, for every node, the same out-edges
with the same payload in the same order. -/
theorem C19_decode_encode (a : Adj) (wf : a.nodes.Nodup) :
    (decode (encode a)).nodes = a.nodes ∧ ∀ u ∈ a.nodes, outOf (decode (encode a)) u = outOf a u := by
  refine ⟨rfl, fun u hu => ?_⟩
  rw [outOf_decode, encode, filter_fst_flatMap_graph (outOf a) u wf, if_pos hu, if_pos hu]
  exact map_map_of_leftInverse (fun _ => rfl) _

theorem C19_decode_no_extra (a : Adj) (u : Nat) (hu : u ∉ a.nodes) :
    outOf (decode (encode a)) u = [] := by
  rw [outOf_decode]
  exact if_neg hu

theorem same_decode_encode (a : Adj) (wf : a.nodes.Nodup) : Same a (decode (encode a)) :=
  ⟨rfl, fun u hu => ((C19_decode_encode a wf).2 u hu).symm⟩

theorem C19_roundtrip_n (n : Nat) (a : Adj) (wf : a.nodes.Nodup) : Same a (roundtrip n a) := by
  induction n generalizing a with
  | zero => exact ⟨rfl, fun _ _ => rfl⟩
  | succ n ih => exact (same_decode_encode a wf).trans (ih _ wf)

/-- One link per out-edge. -/
theorem C19_link_count (a : Adj) :
    (encode a).links.length = (a.nodes.map fun u => (outOf a u).length).sum := by
  unfold encode
  simp only [List.length_flatMap, List.length_map]

/-- A three-node graph with a zero-weight edge and two edges out of node 0 is restored exactly. -/
example : decode (encode ⟨[0, 1, 2], [(0, [(1, (5, "OPERATOR_KERNEL")), (2, (0, "DEPENDENCY"))]), (1, [(2, (3, "KERNEL_KERNEL_DELAY"))]), (2, [])]⟩)
    = ⟨[0, 1, 2], [(0, [(1, (5, "OPERATOR_KERNEL")), (2, (0, "DEPENDENCY"))]), (1, [(2, (3, "KERNEL_KERNEL_DELAY"))]), (2, [])]⟩ := by
  decide +kernel

theorem Store.read_eq (s : Store) (dir : String) : s.read dir = assocGet s dir := rfl

theorem read_write (s : Store) (dir dir' : String) (d : NodeLink) :
    (s.write dir d).read dir' = if dir == dir' then some d else s.read dir' := by
  rw [Store.read_eq, Store.read_eq, Store.write, assocGet_cons]

theorem read_run (s : Store) (ops : List Op) (dir : String) :
    (run s ops).read dir = match lastSaved dir ops with
      | some a => some (encode a)
      | none => s.read dir := by
  induction ops generalizing s with
  | nil => rfl
  | cons op ops ih =>
    rw [run, ih]
    conv => rhs; unfold lastSaved
    cases lastSaved dir ops with
    | some a => rfl
    | none =>
      cases op with
      | restore d => rfl
      | save d a =>
        dsimp only
        rw [step, read_write]
        cases d == dir <;> rfl

/-- In every sequence of saves and restores, a restore from `dir` yields a graph
observationally equal to the one most recently saved to `dir` (not an earlier one, not one
saved elsewhere). -/
theorem C19_restore_returns_last_saved (s : Store) (ops : List Op) (dir : String) (a : Adj)
    (hl : lastSaved dir ops = some a) (wf : a.nodes.Nodup) :
    ∃ b, (step (run s ops) (.restore dir)).2 = some b ∧ Same a b := by
  refine ⟨decode (encode a), ?_, same_decode_encode a wf⟩
  show ((run s ops).read dir).map decode = _
  rw [read_run, hl]
  rfl

example : lastSaved "d" [.save "d" ⟨[0], [(0, [])]⟩, .restore "d", .save "e" ⟨[5], [(5, [])]⟩, .save "d" ⟨[0, 1], [(0, [(1, (3, "x"))]), (1, [])]⟩]
    = some ⟨[0, 1], [(0, [(1, (3, "x"))]), (1, [])]⟩ := by decide +kernel

end Hta.C19
