import HtaVerif.Model.C18
/-!
# C18 — trace filters are pure row selections with the documented predicates
-/
namespace Hta.C18

theorem rowPred_rows (fr : Frame) (l : List FRow) (f : Flt) :
    rowPred { fr with rows := l } f = rowPred fr f := by
  cases f <;> rfl

/-- The early return on an empty frame (`name`, `memcopy`) agrees with filtering it. -/
theorem ite_isEmpty_filter (fr : Frame) (p : FRow → Bool) :
    (if fr.rows.isEmpty then fr else { fr with rows := fr.rows.filter p }) =
      { fr with rows := fr.rows.filter p } := by
  split
  · obtain ⟨rows, _, _⟩ := fr
    cases List.isEmpty_iff.mp ‹_›; rfl
  · rfl

theorem apply_of_rowPred {f : Flt} {fr : Frame} {p : FRow → Bool} (hp : rowPred fr f = some p) :
    apply f fr = { fr with rows := fr.rows.filter p } := by
  cases f with
  | iterIndex => cases hp
  | name | memcopy => simp only [apply, hp, ite_isEmpty_filter]
  | _ => simp only [apply, hp]

theorem apply_eq_filter (f : Flt) (fr : Frame) :
    ∃ p, apply f fr = { fr with rows := fr.rows.filter p } := by
  have keep : ∃ p, fr = { fr with rows := fr.rows.filter p } :=
    ⟨fun _ => true, by rw [List.filter_eq_self.mpr fun _ _ => rfl]⟩
  cases hp : rowPred fr f with
  | some p => exact ⟨p, apply_of_rowPred hp⟩
  | none =>
    -- only the position-based iteration filter has no row predicate; for the other filters this case does not arise, and
    -- under `hp` their `apply` returns `fr` unchanged.
    cases f with
    | iterIndex ixs =>
      simp only [apply]
      split
      · exact keep
      · exact ⟨_, rfl⟩
    | name | memcopy => simpa only [apply, hp, ite_self] using keep
    | _ => simpa only [apply, hp] using keep

theorem apply_apply_of_rowPred {f g : Flt} {fr : Frame} {p q : FRow → Bool}
    (hp : rowPred fr f = some p) (hq : rowPred fr g = some q) :
    apply g (apply f fr) = { fr with rows := fr.rows.filter fun r => q r && p r } := by
  rw [apply_of_rowPred hp, apply_of_rowPred ((rowPred_rows ..).trans hq)]
  simp only [List.filter_filter]

theorem C18_rowlocal_exact (f : Flt) (fr : Frame) (p : FRow → Bool) (hp : rowPred fr f = some p) :
    (apply f fr).rows = fr.rows.filter p ∧ (apply f fr).hasRank = fr.hasRank ∧
      (apply f fr).decoded = fr.decoded := by
  rw [apply_of_rowPred hp]
  exact ⟨rfl, rfl, rfl⟩

/-- Every filter returns a sub-frame: rows in their order, contents and columns unchanged. -/
theorem C18_subframe (f : Flt) (fr : Frame) :
    (apply f fr).rows.Sublist fr.rows ∧ (apply f fr).hasRank = fr.hasRank ∧
      (apply f fr).decoded = fr.decoded := by
  obtain ⟨p, h⟩ := apply_eq_filter f fr
  rw [h]
  exact ⟨List.filter_sublist, rfl, rfl⟩

/-- The position-based iteration filter selects the rows whose iteration stands at one of the
requested positions among the iterations present (a leading -1 is not counted). -/
theorem C18_iterIndex_rule (ixs : List Nat) (fr : Frame) (sel : List Int)
    (h : selectedIters ixs fr.rows = some sel) :
    (apply (.iterIndex ixs) fr).rows = fr.rows.filter fun r => sel.contains r.iter := by
  simp only [apply, h]

theorem C18_composite_sequential (fs gs : List Flt) (fr : Frame) :
    applyAll (fs ++ gs) fr = applyAll gs (applyAll fs fr) :=
  List.foldl_append ..

theorem C18_composite_single (f : Flt) (fr : Frame) : applyAll [f] fr = apply f fr := rfl

/-- Two row-local filters: the result is the intersection of their selections, in either order. -/
theorem C18_rowlocal_comm (f g : Flt) (fr : Frame) (p q : FRow → Bool)
    (hp : rowPred fr f = some p) (hq : rowPred fr g = some q) :
    (apply g (apply f fr)).rows = fr.rows.filter (fun r => p r && q r) ∧
    (apply f (apply g fr)).rows = fr.rows.filter (fun r => p r && q r) := by
  constructor
  · rw [apply_apply_of_rowPred hp hq]; simp only [Bool.and_comm]
  · rw [apply_apply_of_rowPred hq hp]

theorem C18_rowlocal_idem (f : Flt) (fr : Frame) (p : FRow → Bool) (hp : rowPred fr f = some p) :
    (apply f (apply f fr)).rows = (apply f fr).rows := by
  rw [apply_apply_of_rowPred hp hp, apply_of_rowPred hp]
  simp only [Bool.and_self]

/-- The restriction to row-local members is necessary: the position-based iteration filter is
not idempotent (iterations 5,6,7 present; position 1 selects 6; in the result there is no position 1). -/
theorem C18_iterIndex_not_idempotent :
    ∃ fr : Frame, (apply (.iterIndex [1]) (apply (.iterIndex [1]) fr)).rows ≠ (apply (.iterIndex [1]) fr).rows := by
  refine ⟨{ rows := [⟨0, 0, 1, -1, -1, 5, 0, "a", "c", ""⟩, ⟨1, 1, 1, -1, -1, 6, 0, "a", "c", ""⟩,
                     ⟨2, 2, 1, -1, -1, 7, 0, "a", "c", ""⟩], hasRank := false, decoded := false }, ?_⟩
  decide

def exFrame : Frame := { rows := [⟨0, 0, 10, -1, -1, 1, 0, "aten::add", "cpu_op", ""⟩, ⟨1, 2, 3, 7, 5, 1, 0, "k", "kernel", ""⟩,
                                   ⟨2, 12, 4, -1, -1, 2, 0, "aten::mm", "cpu_op", ""⟩], hasRank := false, decoded := false }
/-- The hypotheses of `C18_rowlocal_comm` can be met: a time-range filter and a device-side filter are row-local on
`exFrame`, select different non-empty sets, and compose to the same rows in either order. -/
example : (rowPred exFrame (.timeRange 0 10)).isSome = true ∧ (rowPred exFrame (.gpu false)).isSome = true ∧
    ((apply (.timeRange 0 10) exFrame).rows.map (·.idx)) = [0, 1] ∧ ((apply (.gpu false) exFrame).rows.map (·.idx)) = [1] ∧
    (apply (.gpu false) (apply (.timeRange 0 10) exFrame)).rows = (apply (.timeRange 0 10) (apply (.gpu false) exFrame)).rows := by
  decide +kernel

end Hta.C18
