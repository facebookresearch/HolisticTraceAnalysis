import HtaVerif.Proofs.Interval
import HtaVerif.Spec.C14
/-!
# C14 — queue-length and memory-bandwidth counters are exact step functions

One stream; `pairs` = the linked (launch ts, activity start ts) pairs of that stream.
`ms` = any permutation of their markers sorted by `(ts ascending, queue descending)` —
the order `sort_values(by=["ts","queue"], ascending=[True, False])` guarantees.
The series is `running 0 ms` (`cumsum`).
-/
namespace Hta.C14

theorem mem_running {ms : List Marker} {acc v : Int} (h : v ∈ running acc ms) :
    ∃ p x q, ms = p ++ x :: q ∧ v = acc + totalDelta p + x.2 := by
  induction ms generalizing acc with
  | nil => cases h
  | cons m ms ih =>
    rcases List.mem_cons.mp h with h | h
    · exact ⟨[], m, ms, rfl, by rw [h, totalDelta, Int.add_zero]⟩
    · obtain ⟨p, x, q, rfl, hv⟩ := ih h
      exact ⟨m :: p, x, q, rfl, by rw [hv, totalDelta, Int.add_assoc acc]⟩

theorem running_append (p q : List Marker) (acc : Int) :
    running acc (p ++ q) = running acc p ++ running (acc + totalDelta p) q := by
  induction p generalizing acc with
  | nil => simp [running, totalDelta]
  | cons m p ih =>
    simp only [List.cons_append, running, totalDelta, ih, Int.add_assoc]

theorem getLast?_running {p : List Marker} (hne : p ≠ []) (acc : Int) :
    (running acc p).getLast? = some (acc + totalDelta p) := by
  rw [← List.dropLast_concat_getLast hne, running_append, totalDelta_append, List.getLast?_append]
  simp only [running, totalDelta, List.getLast?_singleton, Option.some_or, Int.add_zero, Int.add_assoc]

theorem getLast?_running_of_split {ms p q : List Marker} {t : Int} (hperm : (p ++ q).Perm ms)
    (hne : p ≠ []) (hp : ∀ y ∈ p, y.1 ≤ t) (hq : ∀ z ∈ q, t < z.1) :
    (running 0 p).getLast? = some (stateAt ms t) := by
  rw [getLast?_running hne, ← stateAt_perm hperm t, stateAt_between hp hq, Int.zero_add]

theorem stateAt_qmarkers (pairs : List (Int × Int)) (t : Int) :
    stateAt (qmarkers pairs) t = outstanding pairs t := by
  induction pairs with
  | nil => rfl
  | cons p ps ih =>
    -- `-(if c then 1 else 0)` is `if c then -1 else 0`
    rw [qmarkers, stateAt, stateAt, outstanding, ih, Int.sub_eq_add_neg, Int.add_assoc, apply_ite Neg.neg]
    rfl

theorem totalDelta_qmarkers (pairs : List (Int × Int)) : totalDelta (qmarkers pairs) = 0 := by
  induction pairs with
  | nil => rfl
  | cons p ps ih => simp only [qmarkers, totalDelta, ih]; omega

theorem outstanding_nonneg {pairs : List (Int × Int)} (h : ∀ p ∈ pairs, p.1 ≤ p.2) (t : Int) :
    0 ≤ outstanding pairs t := by
  induction pairs with
  | nil => exact Int.le_refl _
  | cons p ps ih =>
    refine Int.add_nonneg ?_ (ih fun x hx => h x (List.mem_cons_of_mem _ hx))
    -- an activity that has started has been launched
    by_cases h2 : p.2 ≤ t
    · rw [if_pos h2, if_pos (Int.le_trans (h p List.mem_cons_self) h2)]; decide
    · rw [if_neg h2]; split <;> decide

theorem stateAt_copyMarkers (cs : List Copy) (hpos : ∀ c ∈ cs, c.ts ≤ c.fin) (t : Int) :
    stateAt (copyMarkers cs) t = activeBw cs t := by
  induction cs with
  | nil => rfl
  | cons c cs ih =>
    rw [copyMarkers, stateAt_pulse (hpos c List.mem_cons_self),
      ih fun x hx => hpos x (List.mem_cons_of_mem _ hx), activeBw]

theorem keyLe.ts_le {a b : Marker} (h : keyLe a b) : a.1 ≤ b.1 :=
  h.elim Int.le_of_lt fun h => Int.le_of_eq h.1

theorem keyLe.delta_le {a b : Marker} (h : keyLe a b) (ht : b.1 ≤ a.1) : b.2 ≤ a.2 :=
  h.elim (fun h => absurd ht (Int.not_le.mpr h)) (·.2)

/-- The core of `C14_queue_nonneg`: in a list sorted by `(ts ↑, delta ↓)` the prefix sum up to a row `x` is bounded
below by the step function at or just before the instant of `x`. If `x` falls, the rows of its instant after it
fall too; if it rises, so do those before it. -/
theorem prefix_ge_state {p q : List Marker} {x : Marker} (hs : (p ++ x :: q).Pairwise keyLe) :
    ∃ τ, stateAt (p ++ x :: q) τ ≤ totalDelta p + x.2 := by
  obtain ⟨_, hxq, hpx⟩ := List.pairwise_append.mp hs
  have hp : ∀ y ∈ p, keyLe y x := fun y hy => hpx y hy x List.mem_cons_self
  have hq : ∀ z ∈ q, keyLe x z := (List.pairwise_cons.mp hxq).1
  have hq0 : stateAt q (x.1 - 1) = 0 :=
    stateAt_of_lt fun z hz => Int.sub_one_lt_of_le (hq z hz).ts_le
  have hpT : stateAt p x.1 = totalDelta p := stateAt_of_ge fun y hy => (hp y hy).ts_le
  have hlt : x.1 - 1 < x.1 := Int.sub_one_lt_of_le (Int.le_refl _)
  by_cases hx : x.2 < 0
  · have : stateAt q x.1 ≤ stateAt q (x.1 - 1) := stateAt_le_stateAt
      (fun z hz h _ => Int.le_trans ((hq z hz).delta_le h) (Int.le_of_lt hx))
      fun z _ h h' => by omega
    refine ⟨x.1, ?_⟩
    rw [stateAt_append, stateAt, hpT, if_pos (Int.le_refl _)]
    omega
  · have : stateAt p (x.1 - 1) ≤ stateAt p x.1 := stateAt_le_stateAt
      (fun y _ h h' => by omega)
      fun y hy h _ => Int.le_trans (Int.not_lt.mp hx) ((hp y hy).delta_le (Int.sub_one_lt_iff.mp h))
    refine ⟨x.1 - 1, ?_⟩
    rw [stateAt_append, stateAt, hq0, if_neg (Int.not_le.mpr hlt)]
    omega

/-- After the last event of any instant the series equals (launches issued so far) minus
(their activities started so far). -/
theorem C14_queue_last_of_instant (pairs : List (Int × Int)) (ms p q : List Marker) (t : Int)
    (hperm : ms.Perm (qmarkers pairs)) (hms : ms = p ++ q) (hne : p ≠ [])
    (hp : ∀ y ∈ p, y.1 ≤ t) (hq : ∀ z ∈ q, t < z.1) :
    (running 0 p).getLast? = some (outstanding pairs t) ∧
      running 0 ms = running 0 p ++ running (totalDelta p) q := by
  constructor
  · rw [getLast?_running_of_split (hms ▸ hperm) hne hp hq, stateAt_qmarkers]
  · rw [hms, running_append, Int.zero_add]

/-- The series ends at 0. -/
theorem C14_queue_ends_zero (pairs : List (Int × Int)) (ms : List Marker)
    (hperm : ms.Perm (qmarkers pairs)) (hne : ms ≠ []) :
    (running 0 ms).getLast? = some 0 := by
  rw [getLast?_running hne, totalDelta_perm hperm, totalDelta_qmarkers]; rfl

/-- When no activity starts before its launch call, no row of the series is negative —
including the transient rows inside an instant. -/
theorem C14_queue_nonneg (pairs : List (Int × Int)) (ms : List Marker)
    (hcausal : ∀ p ∈ pairs, p.1 ≤ p.2)
    (hperm : ms.Perm (qmarkers pairs)) (hs : SortedByKey ms) :
    ∀ v ∈ running 0 ms, 0 ≤ v := by
  intro v hv
  obtain ⟨p, x, q, rfl, rfl⟩ := mem_running hv
  obtain ⟨τ, h⟩ := prefix_ge_state hs
  rw [stateAt_perm hperm, stateAt_qmarkers] at h
  have := outstanding_nonneg hcausal τ
  omega

/-- Memory bandwidth: after the last event of an instant the series of a copy type equals
the sum of the bandwidths of the copies active at that instant (in `memCopies`, `fin = ts + widen dur`: a zero-length copy lasts one unit). -/
theorem C14_bw_last_of_instant (cs : List Copy) (ms p q : List Marker) (t : Int)
    (hpos : ∀ c ∈ cs, c.ts ≤ c.fin)
    (hperm : ms.Perm (copyMarkers cs)) (hms : ms = p ++ q) (hne : p ≠ [])
    (hp : ∀ y ∈ p, y.1 ≤ t) (hq : ∀ z ∈ q, t < z.1) :
    (running 0 p).getLast? = some (activeBw cs t) := by
  rw [getLast?_running_of_split (hms ▸ hperm) hne hp hq, stateAt_copyMarkers cs hpos]

theorem C14_bw_active_nonneg (cs : List Copy) (hbw : ∀ c ∈ cs, 0 ≤ c.bw) (t : Int) :
    0 ≤ activeBw cs t := by
  induction cs with
  | nil => exact Int.le_refl _
  | cons c cs ih =>
    refine Int.add_nonneg ?_ (ih fun x hx => hbw x (List.mem_cons_of_mem _ hx))
    split
    · exact hbw c List.mem_cons_self
    · exact Int.le_refl _

/-- Counter events reproduce the series at the original (unshifted) timestamps. -/
theorem C14_counter_events (minTs : Int) (series : List (Int × Int × Int × Int)) :
    (counterEvents minTs series).map (fun e => (e.ts - minTs, e.pid, e.id, e.value)) = series :=
  map_map_of_leftInverse (fun _ => Prod.ext (Int.add_sub_cancel ..) rfl) series

/-- Two pairs, the second started at the same microsecond as its launch. -/
example : running 0 [(0, 1), (3, 1), (3, -1), (5, -1)] = [1, 2, 1, 0] := by decide
example : SortedByKey [(0, 1), (3, 1), (3, -1), (5, -1)] := by
  unfold SortedByKey keyLe; decide

end Hta.C14
