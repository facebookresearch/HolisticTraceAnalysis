import HtaVerif.Spec.C08
import HtaVerif.Proofs.C08Walk
import HtaVerif.Proofs.C08Kernel
/-!
# C08 — critical-path graph is a forward-in-time DAG with typed, non-negative edges
-/
namespace Hta.C08

/-- The nodes are the start and the end of every analysed event of the window, carrying its start and end time. -/
theorem C08_nodes_two_per_event (clipped : List Row) (n : NodeId) (ts : Int) :
    (n, ts) ∈ nodesOf clipped ↔
      ∃ r ∈ clipped, hasNode r = true ∧ n.ev = r.idx ∧ ts = nodeTs r n.isStart := by
  obtain ⟨ev, st⟩ := n
  simp only [nodesOf, List.mem_flatMap, List.mem_filter, and_assoc]
  -- row by row: which of its two nodes `(⟨ev, st⟩, ts)` is
  refine exists_congr fun r => and_congr_right fun _ => and_congr_right fun _ => ?_
  cases st <;> simp [nodeTs]

theorem nodesOf_length (clipped : List Row) :
    (nodesOf clipped).length = 2 * (clipped.filter hasNode).length := by
  unfold nodesOf
  induction clipped.filter hasNode with
  | nil => rfl
  | cons r rs ih => simp only [List.flatMap_cons, List.length_append, List.length_cons, List.length_nil, ih]; omega

/-- Every edge of the graph is the edge of a descriptor (a later one may have replaced an earlier one). -/
theorem forall_edges_build {P : Edge → Prop} (rows : List Row) (ws : Waits) (w : Int × Int) (zl : Bool)
    (h : ∀ d ∈ descs rows (clip rows w) ws zl, P (mkEdge rows d.src d.dst d.ty d.zero)) :
    ∀ e ∈ (build rows ws w zl).2.edges, P e :=
  applyAll_induction (I := fun g => ∀ e ∈ g.edges, P e) rows (fun g hg d hd e he => by
    rw [applyDesc, attributeEdge_edges] at he
    exact (mem_addEdge.mp he).elim (fun h => hg e h.1) fun he => he ▸ h d hd) fun _ h => nomatch h

theorem mkEdge_weightOK (rows : List Row) (src dst : NodeId) (ty : ETy) (z : Bool) :
    WeightOK rows (mkEdge rows src dst ty z) := by
  refine ⟨fun h => if_pos (by rcases h with rfl | rfl <;> rfl), ?_⟩
  unfold mkEdge
  split
  · exact .inl rfl
  · exact .inr rfl

/-- Weight rule (`_add_edge_helper`): every edge of the graph weighs either the time difference of its
endpoints or zero, and dependency / synchronisation edges always weigh zero. -/
theorem C08_edge_weight_rule (rows : List Row) (ws : Waits) (w : Int × Int) (zl : Bool) :
    ∀ e ∈ (build rows ws w zl).2.edges, WeightOK rows e :=
  forall_edges_build rows ws w zl fun _ _ => mkEdge_weightOK rows _ _ _ _

theorem C08_forward_of_descs (rows : List Row) (ws : Waits) (w : Int × Int) (zl : Bool)
    (h : ∀ d ∈ descs rows (clip rows w) ws zl, tsOf rows d.src ≤ tsOf rows d.dst) :
    ∀ e ∈ (build rows ws w zl).2.edges, Forward rows e :=
  forall_edges_build rows ws w zl h

theorem C08_weights_nonneg (rows : List Row) (ws : Waits) (w : Int × Int) (zl : Bool)
    (hfwd : ∀ e ∈ (build rows ws w zl).2.edges, Forward rows e) :
    ∀ e ∈ (build rows ws w zl).2.edges, 0 ≤ e.weight := by
  intro e he
  have hf : tsOf rows e.src ≤ tsOf rows e.dst := hfwd e he
  rcases (C08_edge_weight_rule rows ws w zl e he).2 with h | h <;> omega

theorem Walk.lift {edges : List Edge} {α : Type} (f : NodeId → α) (r : α → α → Prop)
    (htrans : ∀ {x y z}, r x y → r y z → r x z) (h : ∀ e ∈ edges, r (f e.src) (f e.dst))
    {a b : NodeId} (w : Walk edges a b) : r (f a) (f b) := by
  induction w with
  | single e he => exact h e he
  | cons e he _ ih => exact htrans (h e he) ih

/-- Soundness of the certificate checker. The harness obtains the rank from a topological order and the check runs
in Lean on the implementation's own edge list. The rank rises strictly along every edge, hence along every walk, and a
closed walk would give `rank a < rank a`. -/
theorem C08_checkTopo_sound (edges : List Edge) (rank : NodeId → Nat)
    (h : checkTopo edges rank = true) : Acyclic edges :=
  fun _ w => Nat.lt_irrefl _ (w.lift rank (· < ·) Nat.lt_trans fun e he => of_decide_eq_true (List.all_eq_true.mp h e he))

example : checkTopo [⟨⟨1, true⟩, ⟨1, false⟩, 5, .op⟩, ⟨⟨1, false⟩, ⟨2, true⟩, 0, .dep⟩]
    (fun n => if n.ev == 1 then (if n.isStart then 0 else 1) else 2) = true := by decide

/-- The condition on the state a walk starts in: the nodes it remembers are no later than `T`, a lower bound
of the times of the tokens still to be read. -/
structure DfsInv (rows : List Row) (T : Int) (s : DS) : Prop where
  last : ∀ n, s.lastNode = some n → tsOf rows n ≤ T
  high : ∀ n, s.lastHigh = some n → tsOf rows n ≤ T

/-- Call-stack edges point forward in time, for any token list that is non-decreasing in time (as the sorted
endpoint list of C03 is) and whose tokens carry the times of their nodes. -/
theorem C08_callstack_edges_forward (rows : List Row) (nodeEv : Int → Bool) (parent : Int → Int)
    (blocking : Int → Bool) (toks : List C03.Tok)
    (hsorted : toks.Pairwise fun a b => a.time ≤ b.time)
    (hts : ∀ t ∈ toks, nodeEv t.idx = true → tsOf rows ⟨t.idx, t.kind == -1⟩ = t.time)
    (s : DS) (T : Int) (hT : ∀ t ∈ toks, T ≤ t.time) (inv : DfsInv rows T s) :
    ∀ d ∈ dfsRun nodeEv parent blocking s toks, tsOf rows d.src ≤ tsOf rows d.dst :=
  dfsRun_forward rows nodeEv parent blocking toks hsorted hts s fun n h t ht =>
    Int.le_trans (h.elim (inv.last n) (inv.high n)) (hT t ht)

/-- What the kernel loop may emit for a row, as the property states it: the kernel's own span, a launch-delay edge
from the linked runtime call, a kernel-kernel edge from the last kernel seen on the same stream, and a synchronisation
edge from a kernel's end to the end of the host call that waited for it (Stream / Context Sync: the last kernel of a
stream; Event Sync: the kernel launched last before the event was recorded) or to the start of the kernel that
waited for it (scheduled by an earlier Stream Wait Event). -/
def KernelDescOK (rows : List Row) (ws : Waits) (st : KState) (r : Row) (d : Desc) : Prop :=
  (d.ty = .op ∧ d.src = ⟨r.idx, true⟩ ∧ d.dst = ⟨r.idx, false⟩) ∨
  (d.ty = .launch ∧ d.src = ⟨r.link, true⟩ ∧ d.dst = ⟨r.idx, true⟩) ∨
  (d.ty = .kk ∧ lastOn st.last r.stream = some d.src ∧ d.dst = ⟨r.idx, true⟩) ∨
  (d.ty = .sync ∧ d.dst = ⟨r.link, false⟩ ∧ ∃ s, lastOn st.last s = some d.src) ∨
  (d.ty = .sync ∧ d.dst = ⟨r.link, false⟩ ∧ r.name = "Event Sync" ∧
      d.src = ⟨linkOf rows (syncPrev rows ws r), false⟩) ∨
  (d.ty = .sync ∧ d.dst = ⟨r.idx, true⟩ ∧ ∃ s, ksGet st.ksync r.idx = some (some s) ∧ d.src = ⟨s, false⟩)

/-- Edge types join only what they stand for, at one step of the kernel loop. -/
theorem C08_kernel_edge_types (rows clipped : List Row) (ws : Waits) (q : Int → Option Int) (zl : Bool)
    (st : KState) (r : Row) (hnd : (st.last.map (·.1)).Nodup) :
    ∀ d ∈ (kernelStep rows clipped ws q zl st r).2, KernelDescOK rows ws st r d := by
  intro d hd
  cases (kernelStep_spec rows clipped ws q zl st r).emits d hd with
  | evsync hn _ _ => exact .inr (.inr (.inr (.inr (.inl ⟨rfl, rfl, hn, rfl⟩))))
  | sync s n _ hm _ _ => exact .inr (.inr (.inr (.inl ⟨rfl, rfl, s, assocGet_of_mem hnd hm⟩)))
  | span _ => exact .inl ⟨rfl, rfl, rfl⟩
  | gsync s _ hs _ => exact .inr (.inr (.inr (.inr (.inr ⟨rfl, rfl, s, hs, rfl⟩))))
  | launch z _ _ => exact .inr (.inl ⟨rfl, rfl, rfl⟩)
  | kk n _ hl => exact .inr (.inr (.inl ⟨rfl, hl, rfl⟩))

/-- Causal consistency of the rows the kernel loop processes, in processing order `ks`, stated on exactly the pairs
the loop relates: a device activity starts no earlier than its launch call; activities of one stream do not overlap
(`fifo`); a blocking Stream / Context synchronisation returns no earlier than the work of the awaited stream(s) that
precedes it (`sync`); `cudaEventSynchronize` returns no earlier than the kernel its event waits for (`evsync`); the
kernel that follows a `cudaStreamWaitEvent` on the waiting stream starts no earlier than the kernel the awaited
event stands for ends (`wait`). -/
structure Causal (rows clipped : List Row) (ws : Waits) (ks : List Row) : Prop where
  ids : ∀ r ∈ ks, findRow rows r.idx = some r
  dur : ∀ r ∈ ks, isK r = true → 0 ≤ r.dur
  launch : ∀ r ∈ ks, isK r = true → hasNodeIn clipped r.link = true → tsOf rows ⟨r.link, true⟩ ≤ r.ts
  fifo : ks.Pairwise fun a b => isK a = true → isK b = true → a.stream = b.stream → a.ts + a.dur ≤ b.ts
  sync : ks.Pairwise fun a b => isK a = true → isK b = false →
    (b.name = "Context Sync" ∨ (b.name = "Stream Sync" ∧ a.stream = b.stream)) →
    a.ts + a.dur ≤ tsOf rows ⟨b.link, false⟩
  evsync : ∀ r ∈ ks, r.name = "Event Sync" →
    tsOf rows ⟨linkOf rows (syncPrev rows ws r), false⟩ ≤ tsOf rows ⟨r.link, false⟩
  wait : ∀ w ∈ ks, w.name = "Stream Wait Event" → ∀ nl, nextLaunch rows w.link = some nl →
    tsOf rows ⟨linkOf rows (syncPrev rows ws w), false⟩ ≤ tsOf rows ⟨linkOf rows nl, true⟩

/-- Kernel-loop edges point forward in time for any causally consistent processing order `ks`. -/
theorem C08_kernel_edges_forward (rows clipped : List Row) (ws : Waits) (q : Int → Option Int) (zl : Bool)
    (ks : List Row) (hc : Causal rows clipped ws ks) :
    ∀ d ∈ kernelRun rows clipped ws q zl ⟨[], []⟩ ks, tsOf rows d.src ≤ tsOf rows d.dst := by
  intro d hd
  obtain ⟨pre, r, post, st, rfl, inv, he⟩ := kernelRun_emits rows clipped ws q zl ks d hd
  have hr : r ∈ pre ++ r :: post := by simp
  have hstart := tsOf_start (hc.ids r hr)
  have hpre : ∀ {a}, a ∈ pre.reverse → a ∈ pre ++ r :: post := fun h => List.mem_append_left _ (List.mem_reverse.mp h)
  cases he with
  | evsync hn _ _ => exact hc.evsync r hr hn
  | sync s n hk hm hw _ =>
    -- `n` is the end of an activity `a` processed before `r`
    obtain ⟨a, ha, hka, rfl, rfl⟩ := inv.last_mem hm
    rw [tsOf_end (hc.ids a (hpre ha))]
    exact hc.sync.rel_of_mem_append (List.mem_reverse.mp ha) List.mem_cons_self hka hk hw
  | span hk =>
    rw [hstart, tsOf_end (hc.ids r hr)]
    exact Int.le_add_of_nonneg_right (hc.dur r hr hk)
  | gsync s _ hs _ =>
    obtain ⟨w, hw, hname, nl, hnl, hi, rfl⟩ := inv.pend _ _ (assocGet_mem hs)
    exact hi ▸ hc.wait w (hpre hw) hname nl hnl
  | launch z hk hn => exact hstart ▸ hc.launch r hr hk hn
  | kk n hk hl =>
    obtain ⟨a, ha, hka, hst, rfl⟩ := inv.last_mem (assocGet_mem hl)
    rw [hstart, tsOf_end (hc.ids a (hpre ha))]
    exact hc.fifo.rel_of_mem_append (List.mem_reverse.mp ha) List.mem_cons_self hka hk hst

/-! A launch, its kernel and a Stream Sync record that returns after the kernel: the witness that `TraceCausal` and
`Causal` can be met (after `causal_of_traceCausal`). Their `evsync` and `wait` clauses hold vacuously: no row is named
"Event Sync" or "Stream Wait Event". -/
def exRows : List Row := [
  { idx := 1, ts := 0, dur := 2, pid := 1, tid := 1, stream := -1, corr := 5, link := 2, name := "cudaLaunchKernel", cat := "cuda_runtime" },
  { idx := 2, ts := 1, dur := 4, pid := 0, tid := 7, stream := 7, corr := 5, link := 1, name := "k", cat := "kernel" },
  { idx := 3, ts := 6, dur := 9, pid := 1, tid := 1, stream := -1, corr := 6, link := 4, name := "cudaStreamSynchronize", cat := "cuda_runtime" },
  { idx := 4, ts := 6, dur := 9, pid := 0, tid := 7, stream := 7, corr := 6, link := 3, name := "Stream Sync", cat := "cuda_sync" }]
def exK : Row := { idx := 2, ts := 1, dur := 4, pid := 0, tid := 7, stream := 7, corr := 5, link := 1, name := "k", cat := "kernel" }
def exS : Row := { idx := 4, ts := 6, dur := 9, pid := 0, tid := 7, stream := 7, corr := 6, link := 3, name := "Stream Sync", cat := "cuda_sync" }

/-- A kernel-to-kernel edge joins consecutive kernels of one stream: it runs from the end of an activity `a` to the
start of a row `b` processed later with the same stream, and no activity of that stream is processed between the two. -/
theorem C08_kk_edges_join_consecutive_kernels (rows clipped : List Row) (ws : Waits) (q : Int → Option Int)
    (zl : Bool) (ks : List Row) :
    ∀ d ∈ kernelRun rows clipped ws q zl ⟨[], []⟩ ks, d.ty = .kk →
      ∃ pre a mid b post, ks = pre ++ a :: (mid ++ b :: post) ∧ isK a = true ∧ a.stream = b.stream ∧
        d.src = ⟨a.idx, false⟩ ∧ d.dst = ⟨b.idx, true⟩ ∧ ∀ x ∈ mid, isK x = true → x.stream ≠ b.stream := by
  intro d hd hty
  obtain ⟨pre, b, post, st, rfl, inv, he⟩ := kernelRun_emits rows clipped ws q zl ks d hd
  cases he with
  | kk n _ hl =>
    obtain ⟨a, ⟨l1, l2, hrev, ha, has, hno⟩, rfl⟩ := inv.last _ n (assocGet_mem hl)
    -- `pre` is `l1 ++ a :: l2` read backwards
    obtain rfl := List.reverse_eq_append_iff.mp hrev
    exact ⟨l2.reverse, a, l1.reverse, b, post, by simp, ha, has, rfl, rfl, fun x hx => hno x (List.mem_reverse.mp hx)⟩
  | _ => cases hty

/-- A Stream / Context synchronisation edge runs from the end of the activity processed last on some stream before
the synchronisation record to the end of the host call the record is linked to. The other two alternatives are the
edge of an Event Sync and that of a dependency scheduled by a Stream Wait Event (which enters a kernel's start). -/
theorem C08_sync_edges_from_last_activity (rows clipped : List Row) (ws : Waits) (q : Int → Option Int)
    (zl : Bool) (ks : List Row) :
    ∀ d ∈ kernelRun rows clipped ws q zl ⟨[], []⟩ ks, d.ty = .sync →
      ∃ pre r post, ks = pre ++ r :: post ∧
        ((d.dst = ⟨r.link, false⟩ ∧ ∃ a s, LastOnStream pre.reverse s a ∧ d.src = ⟨a.idx, false⟩) ∨
         (d.dst = ⟨r.link, false⟩ ∧ r.name = "Event Sync" ∧ d.src = ⟨linkOf rows (syncPrev rows ws r), false⟩) ∨
         (d.dst = ⟨r.idx, true⟩ ∧ ∃ k, d.src = ⟨k, false⟩)) := by
  intro d hd hty
  obtain ⟨pre, r, post, st, rfl, inv, he⟩ := kernelRun_emits rows clipped ws q zl ks d hd
  refine ⟨pre, r, post, rfl, ?_⟩
  cases he with
  | evsync hn _ _ => exact .inr (.inl ⟨rfl, hn, rfl⟩)
  | sync s n _ hm _ _ =>
    obtain ⟨a, ha, rfl⟩ := inv.last s n hm
    exact .inl ⟨rfl, a, s, ha, rfl⟩
  | gsync s _ _ _ => exact .inr (.inr ⟨rfl, s, rfl⟩)
  | _ => cases hty

/-- A launch-delay edge runs from the start node of the event a processed row is linked to (its launch call) to the
row's own start node. -/
theorem C08_launch_edges_join_call_and_kernel (rows clipped : List Row) (ws : Waits) (q : Int → Option Int)
    (zl : Bool) (ks : List Row) :
    ∀ d ∈ kernelRun rows clipped ws q zl ⟨[], []⟩ ks, d.ty = .launch →
      ∃ r ∈ ks, d.src = ⟨r.link, true⟩ ∧ d.dst = ⟨r.idx, true⟩ := by
  intro d hd hty
  obtain ⟨pre, r, post, st, rfl, _, he⟩ := kernelRun_emits rows clipped ws q zl ks d hd
  cases he with
  | launch z _ _ => exact ⟨r, by simp, rfl, rfl⟩
  | _ => cases hty

/-- Every edge joins nodes of events of the analysed window that have nodes (`C08_nodes_two_per_event`). `hnames`:
the records named `Event Sync` / `Context Sync` carry the synchronisation category. -/
theorem C08_edges_join_analysed_events (rows : List Row) (ws : Waits) (w : Int × Int) (zl : Bool)
    (hids : ∀ r ∈ clip rows w, findRow (clip rows w) r.idx = some r)
    (hnames : ∀ r ∈ clip rows w, (r.name == "Event Sync" || r.name == "Context Sync") = true → (r.cat == "cuda_sync") = true) :
    ∀ e ∈ (build rows ws w zl).2.edges,
      hasNodeIn (clip rows w) e.src.ev = true ∧ hasNodeIn (clip rows w) e.dst.ev = true :=
  forall_edges_build rows ws w zl
    (forall_descs (fun t _ => threadDescs_nodes _ t)
      (kernelRun_nodes rows _ ws _ zl _ (kernelRows_hasNode rows _ hids hnames)))

/-- What an event stands for: for a `cudaEventRecord` call whose stream is known, `index_previous_launch` is the
last in start order of the linked launches that put work on that stream of that device no later than the record call;
-1 when there is none. -/
theorem C08_prevLaunch_spec (rows : List Row) (ws : Waits) (rec : Row) (s gpu : Int)
    (hs : recordStream rows ws rec.corr = some (s, gpu)) :
    let P := fun (l : Launch) => l.stream == s && l.gpu == gpu && decide (l.call.ts ≤ rec.ts)
    (∀ l ∈ launches rows, P l = false) ∧ prevLaunch rows ws rec = -1 ∨
    ∃ (k : Nat) (l : Launch), (launches rows)[k]? = some l ∧ P l = true ∧ prevLaunch rows ws rec = l.call.idx ∧
      ∀ j : Nat, k < j → ∀ l', (launches rows)[j]? = some l' → P l' = false := by
  intro P
  unfold prevLaunch
  simp only [hs]
  rcases lastIdx_cases P (launches rows) 0 none with ⟨h, hall⟩ | ⟨k, x, hk, hx, h, hpost⟩
  · exact .inl ⟨hall, by rw [h]⟩
  · exact .inr ⟨k, x, hk, hx, by rw [h]; simp only [Nat.zero_add, hk, Option.map_some, Option.getD_some],
      fun j hj l' hl' => hpost l' (mem_drop_of_getElem? hj hl')⟩

/-- Which kernel waits: for a linked `cudaStreamWaitEvent` call `index_next_launch` is the first launch call in start
order, of the same host thread, that puts work on the waiting stream after the wait call started; -1 when there is
none. -/
theorem C08_nextLaunch_spec (rows : List Row) (callIdx : Int) (c k : Row)
    (hc : rows.find? (fun c => c.idx == callIdx && c.name == "cudaStreamWaitEvent" && decide (c.link > 0)) = some c)
    (hk : rows.find? (fun k => k.idx == c.link && k.stream != -1 && decide (k.link > 0)) = some k) :
    let Q := fun (l : Launch) => l.call.pid == c.pid && l.call.tid == c.tid && l.stream == k.stream && decide (l.call.ts > c.ts)
    (nextLaunch rows callIdx = some (-1) ∧ ∀ l ∈ launches rows, Q l = false) ∨
    ∃ l pre post, launches rows = pre ++ l :: post ∧ Q l = true ∧ nextLaunch rows callIdx = some l.call.idx ∧
      ∀ l' ∈ pre, Q l' = false := by
  intro Q
  unfold nextLaunch
  simp only [hc, hk]
  cases hf : (launches rows).find? Q with
  | none => exact .inl ⟨rfl, fun l hl => Bool.eq_false_iff.mpr (List.find?_eq_none.mp hf l hl)⟩
  | some l =>
    obtain ⟨hq, pre, post, hsplit, hpre⟩ := List.find?_eq_some_iff_append.mp hf
    exact .inr ⟨l, pre, post, hsplit, hq, rfl, fun l' hl' => by simpa using hpre l' hl'⟩

theorem threadDescs_forward (rows clipped : List Row) (t : Int × Int)
    (hrows : ∀ r ∈ clipped, findRow rows r.idx = some r)
    (hdur : ∀ r ∈ clipped, 0 ≤ r.dur)
    (hwf : C03.WF ((C13.threadRows clipped t).map fun r => (⟨r.idx, r.ts, max r.dur 0⟩ : C03.Ev))) :
    ∀ d ∈ threadDescs clipped t, tsOf rows d.src ≤ tsOf rows d.dst := by
  intro d hd
  obtain ⟨_, hd⟩ := mem_threadDescs hd
  have hts := C03.forall_sortToks (C03.hasPO (threadEvs clipped t))
    (P := fun tk => tsOf rows ⟨tk.idx, tk.kind == -1⟩ = tk.time)
    fun e he => (threadEvs_row rows clipped t hrows hdur e he).2
  exact dfsRun_forward rows _ _ _ _ (sortToks_time_sorted _ hwf) (fun tk htk _ => hts tk htk) _
    (fun _ h => absurd h DS.not_remembers_init) d hd

/-- The whole graph points forward in time and carries no negative weight, for unique event ids, non-negative
durations, properly nested host threads and a causally consistent device side (`Causal`, on the order in which the
kernel loop processes its rows). -/
theorem C08_graph_forward (rows : List Row) (ws : Waits) (w : Int × Int) (zl : Bool)
    (hrows : ∀ r ∈ clip rows w, findRow rows r.idx = some r)
    (hdur : ∀ r ∈ clip rows w, 0 ≤ r.dur)
    (hwf : ∀ t ∈ C13.threadsOf (clip rows w), C03.WF ((C13.threadRows (clip rows w) t).map fun r => (⟨r.idx, r.ts, max r.dur 0⟩ : C03.Ev)))
    (hcausal : Causal rows (clip rows w) ws (kernelRows rows (clip rows w))) :
    (∀ e ∈ (build rows ws w zl).2.edges, Forward rows e) ∧ (∀ e ∈ (build rows ws w zl).2.edges, 0 ≤ e.weight) := by
  have hf := C08_forward_of_descs rows ws w zl
    (forall_descs (fun t ht => threadDescs_forward rows _ t hrows hdur (hwf t ht))
      (C08_kernel_edges_forward rows _ ws _ zl _ hcausal))
  exact ⟨hf, C08_weights_nonneg rows ws w zl hf⟩

/-- Causal consistency stated on the trace alone, with no reference to the order of `ks`, the rows the kernel loop
looks at. In place of `Causal`'s `fifo` and `sync`: two activities of one stream do not overlap (`noOverlap`); a
synchronisation record ends no later than the host call it belongs to (`recEnd`), and that call returns no earlier
than every activity of an awaited stream that started before the record ended (`sync`). -/
structure TraceCausal (rows clipped : List Row) (ws : Waits) (ks : List Row) : Prop where
  ids : ∀ r ∈ ks, findRow rows r.idx = some r
  dur : ∀ r ∈ ks, isK r = true → 0 ≤ r.dur
  launch : ∀ r ∈ ks, isK r = true → hasNodeIn clipped r.link = true → tsOf rows ⟨r.link, true⟩ ≤ r.ts
  noOverlap : ∀ a ∈ ks, ∀ b ∈ ks, isK a = true → isK b = true → a.stream = b.stream → a.idx ≠ b.idx →
    a.ts + a.dur ≤ b.ts ∨ b.ts + b.dur ≤ a.ts
  recEnd : ∀ b ∈ ks, isK b = false → (b.name = "Context Sync" ∨ b.name = "Stream Sync") →
    b.ts + b.dur ≤ tsOf rows ⟨b.link, false⟩
  sync : ∀ a ∈ ks, ∀ b ∈ ks, isK a = true → isK b = false →
    (b.name = "Context Sync" ∨ (b.name = "Stream Sync" ∧ a.stream = b.stream)) →
    a.ts < b.ts + b.dur → a.ts + a.dur ≤ tsOf rows ⟨b.link, false⟩
  evsync : ∀ r ∈ ks, r.name = "Event Sync" →
    tsOf rows ⟨linkOf rows (syncPrev rows ws r), false⟩ ≤ tsOf rows ⟨r.link, false⟩
  wait : ∀ w ∈ ks, w.name = "Stream Wait Event" → ∀ nl, nextLaunch rows w.link = some nl →
    tsOf rows ⟨linkOf rows (syncPrev rows ws w), false⟩ ≤ tsOf rows ⟨linkOf rows nl, true⟩

theorem kernelRows_sorted (rows clipped : List Row) :
    (kernelRows rows clipped).Pairwise fun a b => kle rows a b = true := by
  rw [kernelRows_eq]
  exact List.pairwise_mergeSort (le := kle rows) (kle_trans rows) (kle_total rows) _

/-- The order in which the kernel loop processes its rows is causally consistent whenever the trace is; `hsorted`
holds of `kernelRows` by `kernelRows_sorted`. -/
theorem causal_of_traceCausal (rows clipped : List Row) (ws : Waits) (ks : List Row)
    (hsorted : ks.Pairwise fun a b => kle rows a b = true)
    (hdistinct : ks.Pairwise fun a b => a.idx ≠ b.idx)
    (tc : TraceCausal rows clipped ws ks) : Causal rows clipped ws ks := by
  have hmem := List.Pairwise.and_mem.mp (hsorted.and hdistinct)
  refine ⟨tc.ids, tc.dur, tc.launch, hmem.imp ?_, hmem.imp ?_, tc.evsync, tc.wait⟩
  · -- stream order: of two activities that do not overlap, the one with the smaller key ends first
    rintro a b ⟨ha, hb, hle, hne⟩ hka hkb hst
    have hk := kle_keys hle
    rw [kkey_k hka, kkey_k hkb] at hk
    have hdb := tc.dur b hb hkb
    rcases tc.noOverlap a ha b hb hka hkb hst hne with h | h
    · exact h
    · -- `b` ends before `a` starts although `a.ts ≤ b.ts` (`hk`): both are instantaneous at one instant
      omega
  · -- blocking synchronisation: an activity sorted before the record started before the record ended, or
    -- starts at that instant and ends no later than the record
    rintro a b ⟨ha, hb, hle, _⟩ hka hkb hname
    have hk := kle_keys hle
    rw [kkey_k hka, kkey_s hkb] at hk
    have hrec := tc.recEnd b hb hkb (hname.imp_right And.left)
    rcases hk with hlt | ⟨_, hle2⟩
    · exact tc.sync a ha b hb hka hkb hname hlt
    · exact Int.le_trans hle2 hrec

/-- `C08_graph_forward` from trace-level hypotheses only: `TraceCausal` does not mention the order in which the rows
are processed. -/
theorem C08_graph_forward_of_trace (rows : List Row) (ws : Waits) (w : Int × Int) (zl : Bool)
    (hrows : ∀ r ∈ clip rows w, findRow rows r.idx = some r)
    (hunique : (clip rows w).Pairwise fun a b => a.idx ≠ b.idx)
    (hdur : ∀ r ∈ clip rows w, 0 ≤ r.dur)
    (hwf : ∀ t ∈ C13.threadsOf (clip rows w), C03.WF ((C13.threadRows (clip rows w) t).map fun r => (⟨r.idx, r.ts, max r.dur 0⟩ : C03.Ev)))
    (htc : TraceCausal rows (clip rows w) ws (kernelRows rows (clip rows w))) :
    (∀ e ∈ (build rows ws w zl).2.edges, Forward rows e) ∧ (∀ e ∈ (build rows ws w zl).2.edges, 0 ≤ e.weight) :=
  C08_graph_forward rows ws w zl hrows hdur hwf
    (causal_of_traceCausal rows _ ws _ (kernelRows_sorted rows _) (kernelRows_distinct rows _ hunique) htc)

theorem exRows_traceCausal : TraceCausal exRows exRows [] [exK, exS] :=
  ⟨List.forall_mem_cons.2 ⟨rfl, List.forall_mem_singleton.2 rfl⟩, by decide +kernel, by decide +kernel, by decide +kernel, by decide +kernel,
    by decide +kernel, by decide +kernel, by decide +kernel⟩

example : TraceCausal exRows exRows [] [exK, exS] := exRows_traceCausal

/-- `[exK, exS]` is in the loop's order, so the witness of `TraceCausal` is one of `Causal`. -/
example : Causal exRows exRows [] [exK, exS] :=
  causal_of_traceCausal _ _ _ _ (by decide +kernel) (by decide +kernel) exRows_traceCausal

/-- Nodes on a common cycle are simultaneous: a cycle, if there were one, would be confined to a single instant of
the trace's clock. That there is none within one instant either is not proved for all inputs; the certificate checker
(`C08_checkTopo_sound`) establishes it per run. -/
theorem C08_cycle_simultaneous (rows : List Row) (ws : Waits) (w : Int × Int) (zl : Bool)
    (hrows : ∀ r ∈ clip rows w, findRow rows r.idx = some r)
    (hdur : ∀ r ∈ clip rows w, 0 ≤ r.dur)
    (hwf : ∀ t ∈ C13.threadsOf (clip rows w), C03.WF ((C13.threadRows (clip rows w) t).map fun r => (⟨r.idx, r.ts, max r.dur 0⟩ : C03.Ev)))
    (hcausal : Causal rows (clip rows w) ws (kernelRows rows (clip rows w)))
    (a b : NodeId) (hab : Walk (build rows ws w zl).2.edges a b) (hba : Walk (build rows ws w zl).2.edges b a) :
    tsOf rows a = tsOf rows b := by
  have hf := (C08_graph_forward rows ws w zl hrows hdur hwf hcausal).1
  exact Int.le_antisymm (hab.lift (tsOf rows) (· ≤ ·) Int.le_trans hf) (hba.lift (tsOf rows) (· ≤ ·) Int.le_trans hf)

/-- Every edge on such a cycle weighs nothing: a positive-weight edge is never on a cycle. -/
theorem C08_positive_edge_not_on_cycle (rows : List Row) (ws : Waits) (w : Int × Int) (zl : Bool)
    (hrows : ∀ r ∈ clip rows w, findRow rows r.idx = some r)
    (hdur : ∀ r ∈ clip rows w, 0 ≤ r.dur)
    (hwf : ∀ t ∈ C13.threadsOf (clip rows w), C03.WF ((C13.threadRows (clip rows w) t).map fun r => (⟨r.idx, r.ts, max r.dur 0⟩ : C03.Ev)))
    (hcausal : Causal rows (clip rows w) ws (kernelRows rows (clip rows w)))
    (e : Edge) (he : e ∈ (build rows ws w zl).2.edges) (hback : Walk (build rows ws w zl).2.edges e.dst e.src) :
    e.weight = 0 := by
  have hts := C08_cycle_simultaneous rows ws w zl hrows hdur hwf hcausal e.src e.dst (.single e he) hback
  rcases (C08_edge_weight_rule rows ws w zl e he).2 with hw | hw
  · exact hw
  · rw [hw, hts, Int.sub_self]

end Hta.C08
