import HtaVerif.Proofs.Interval
import HtaVerif.Spec.C07
/-!
# C07 — communication/computation overlap is the exact time ratio

For every start-sorted permutation of the communication and computation kernels and
every time-sorted permutation of the resulting markers (pandas' sorts are unstable), the
numerator and denominator computed by the sweep are the unit-cell measures of
`comm ∩ comp` and `comm`, in any window `[lo, lo+n)` that contains the kernels.
-/
namespace Hta.C07

theorem C07_overlap_exact
    (comm comp sA sB : List Iv) (ms : List Marker) (lo : Int) (n : Nat)
    (hpA : sA.Perm comm) (hpB : sB.Perm comp)
    (hsA : SortedByStart sA) (hsB : SortedByStart sB)
    (hms : ms.Perm (markers (mergeSorted sA) (mergeSorted sB))) (hsm : SortedByTime ms)
    (hnnA : ∀ x ∈ comm, x.1 ≤ x.2) (hnnB : ∀ x ∈ comp, x.1 ≤ x.2)
    (hwin : ∀ x ∈ comm ++ comp, lo ≤ x.1 ∧ x.2 ≤ lo + n) :
    Holds comm comp lo n (overlapOf (mergeSorted sA) ms) := by
  have fA := mergeSorted_facts hpA hsA hnnA
  have fB := mergeSorted_facts hpB hsB hnnB
  have hwA : ∀ x ∈ comm, lo ≤ x.1 ∧ x.2 ≤ lo + n := fun x hx => hwin x (List.mem_append_left _ hx)
  have hwB : ∀ x ∈ comp, lo ≤ x.1 ∧ x.2 ≤ lo + n := fun x hx => hwin x (List.mem_append_right _ hx)
  have hnum : sweep (fun r => r == 3) ms
      = (cells lo n (fun t => covers comm t && covers comp t) : Int) := by
    -- the running value is 3 exactly where both a `1`-interval and a `2`-interval are open
    rw [sweep_eq_cells (fun r => r == 3) (by decide) hms hsm ((fA.stepOf hwA 1).append (fB.stepOf hwB 2))]
    exact congrArg _ (cells_congr fun t _ _ => by
      cases covers comm t <;> cases covers comp t <;> decide)
  have hden := fA.sumLen_eq hwA
  -- `comm ∧ comp` is one of the two parts `cells_split_by` splits `comm` into, hence `num ≤ den`
  exact ⟨hnum, hden, le_of_le_of_eq (Int.natCast_nonneg _) hnum.symm, le_of_eq_of_le hnum (le_of_le_of_eq
    (Int.ofNat_le.mpr (cells_split_by lo n (covers comm) (covers comp) ▸ Nat.le_add_right _ _)) hden.symm)⟩

/-- comm = [0,10) ∪ [20,30), comp = [5,25): overlap 5 + 5, comm time 20. -/
example : overlapOf [(0, 10), (20, 30)]
    [(0, 1), (5, 2), (10, -1), (20, 1), (25, -2), (30, -1)] = { num := 10, den := 20 } := by decide

end Hta.C07
