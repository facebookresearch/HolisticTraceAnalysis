import HtaVerif.Model.C10
import HtaVerif.Proofs.C10Cover
import HtaVerif.Props.C17
/-!
# C10 — critical-path breakdown conserves the path weight and attributes it correctly
-/
namespace Hta.C10
open Hta.C08

/-- One breakdown row per critical edge, carrying that edge's weight, type and attribution. -/
theorem C10_rows_one_per_critical_edge (clipped : List Row) (g : G) (crit : List Edge) (out : List BRow)
    (h : breakdown clipped g crit = some out) :
    out.length = crit.length ∧
    out.map (fun r => (r.ev, r.dur, r.ty)) = crit.map (fun e => (attrOf g e, e.weight, e.ty)) := by
  refine (fun hm => ⟨by simpa using congrArg List.length hm, hm⟩) (map_of_mapM_some (fun e b hb => ?_) crit out h)
  obtain ⟨_, _, rfl⟩ := Option.map_eq_some_iff.mp hb
  rfl

def sumW : List Edge → Int
  | [] => 0
  | e :: es => e.weight + sumW es

theorem totalDur_eq (rows : List BRow) : totalDur rows = C05.sumL (rows.map (·.dur)) := by
  induction rows with
  | nil => rfl
  | cons r rs ih => simp only [List.map_cons, C05.sumL, totalDur, ih]

theorem sumW_eq (es : List Edge) : sumW es = C05.sumL (es.map (·.weight)) := by
  induction es with
  | nil => rfl
  | cons e es ih => simp only [List.map_cons, C05.sumL, sumW, ih]

/-- The durations add up to the total weight of the critical edges (the path's weight). -/
theorem C10_durations_sum_to_path_weight (clipped : List Row) (g : G) (crit : List Edge) (out : List BRow)
    (h : breakdown clipped g crit = some out) : totalDur out = sumW crit := by
  have hm := congrArg (List.map (·.2.1)) (C10_rows_one_per_critical_edge clipped g crit out h).2
  rw [List.map_map, List.map_map] at hm
  rw [totalDur_eq, sumW_eq]
  exact congrArg C05.sumL hm

/-- The bound-by class of delay, dependency and synchronisation edges follows from the type. -/
theorem C10_boundBy_delay (clipped : List Row) (ev : Option Int) :
    boundBy clipped .kk ev = some "gpu_kernel_kernel_overhead" ∧
    boundBy clipped .launch ev = some "gpu_kernel_launch_overhead" ∧
    boundBy clipped .dep ev = some "" ∧ boundBy clipped .sync ev = some "" :=
  ⟨rfl, rfl, rfl, rfl⟩

/-- `bound_by` classifies a span edge by the attributed event. -/
theorem C10_boundBy_span (clipped : List Row) (ev : Option Int) (r : Row)
    (hr : ev.bind (findRow clipped) = some r) :
    boundBy clipped .op ev =
      some (if r.stream < 0 then "cpu_bound"
            else if isCommKernel (C17.shortenName r.name) then "gpu_communication_bound"
            else "gpu_compute_bound") := by
  simp only [boundBy, hr, apply_ite some]

/-- The per-class sums of the summary add up to the total duration; the percentages `summary` reports are these
sums over that total (the division is not modelled). -/
theorem C10_class_sums_total (rows : List BRow) :
    C05.sumL ((classSums rows).map (·.2)) = totalDur rows := by
  have h := C05.group_sum_distinct (rows.map fun r => (r.boundBy, r.dur))
  rw [List.map_map, List.map_map] at h
  rw [totalDur_eq, classSums, List.map_map]
  exact h

/-- After `_attribute_edge`, an attributable edge (span or kernel-kernel) carries the event chosen by the rule; for
other edge types the call changes nothing. -/
theorem C10_attribution_recorded (g : G) (e : Edge) (p : Int) :
    ((e.ty = .op ∨ e.ty = .kk) → attrOf (attributeEdge g e p) e = some (attrEv e p)) ∧
    (e.ty ≠ .op → e.ty ≠ .kk → attributeEdge g e p = g) := by
  unfold attributeEdge
  constructor
  · intro h
    rw [if_neg (by rcases h with h | h <;> rw [h] <;> decide)]
    -- the lookup finds the entry just appended
    refine congrArg (Option.map (·.2.2)) (find?_replace_same _ (e.src, e.dst, attrEv e p) ?_ _)
    simp
  · intro h1 h2
    exact if_pos (by revert h1 h2; cases e.ty <;> decide)

/-- The rule of `_attribute_edge`: a kernel-kernel delay goes to the kernel that precedes the gap, a span edge to one
of its endpoints' events or to the recorded parent (four start/end cases). -/
theorem C10_attribution_rule (e : Edge) (p : Int) :
    (e.ty = .kk → attrEv e p = e.src.ev) ∧
    (e.ty = .op → e.src.isStart = true → attrEv e p = e.src.ev) ∧
    (e.ty = .op → e.src.isStart = false → e.dst.isStart = false → attrEv e p = e.dst.ev) ∧
    (e.ty = .op → e.src.isStart = false → e.dst.isStart = true → attrEv e p = p) := by
  unfold attrEv
  refine ⟨?_, ?_, ?_, ?_⟩
  · intro h; rw [h]; rfl
  · intro h hs; rw [h, hs]; rfl
  · intro h hs hd; rw [h, hs, hd]; rfl
  · intro h hs hd; rw [h, hs, hd]; rfl

def exRows : List Row := [
  { idx := 0, ts := 0, dur := 20, pid := 1, tid := 1, stream := -1, corr := -1, link := -1, name := "aten::add", cat := "cpu_op" },
  { idx := 1, ts := 2, dur := 3, pid := 1, tid := 1, stream := -1, corr := 5, link := 2, name := "cudaLaunchKernel", cat := "cuda_runtime" },
  { idx := 2, ts := 6, dur := 30, pid := 0, tid := 7, stream := 7, corr := 5, link := 1, name := "ncclKernel_AllReduce", cat := "kernel" }]
def exG : G := { edges := [⟨⟨1, true⟩, ⟨2, true⟩, 4, .launch⟩, ⟨⟨2, true⟩, ⟨2, false⟩, 30, .op⟩],
                 attr := [(⟨2, true⟩, ⟨2, false⟩, 2)] }
/-- A launch-delay edge and a communication kernel's span give a breakdown (`breakdown … = some out` is met) with
the two bound-by classes and durations adding up to 34. -/
example : (breakdown exRows exG exG.edges).map (fun out => (out.map (·.boundBy), totalDur out)) =
    some (["gpu_kernel_launch_overhead", "gpu_communication_bound"], 34) := by
  -- the kernel name is classified on character lists (`shortenName_ofList`), never by unpacking a string literal
  have hc : isCommKernel (C17.shortenName "ncclKernel_AllReduce") = true := by
    rewrite [C17.shortenName_ofList, isCommKernel]
    repeat rewrite [String.toList_ofList]
    decide +kernel
  have hb : boundBy exRows .op (attrOf exG ⟨⟨2, true⟩, ⟨2, false⟩, 30, .op⟩) = some "gpu_communication_bound" :=
    (C10_boundBy_span exRows _ _ rfl).trans (by rw [hc]; rfl)
  show (breakdown exRows exG [_, _]).map _ = _
  simp only [breakdown, List.mapM_cons, List.mapM_nil, hb]
  rfl

theorem attrOf_attributeEdge_other (g : G) (e0 e : Edge) (p : Int) (hne : ¬ (e.src = e0.src ∧ e.dst = e0.dst)) :
    attrOf (attributeEdge g e0 p) e = attrOf g e := by
  unfold attributeEdge
  split
  · rfl
  · -- the tests for `e` and for `e0` are disjoint, and the appended entry is `e0`'s
    refine congrArg (Option.map _) (find?_replace_other _ _ _ (fun a ha h0 => hne ?_) (fun h => hne ?_) _)
    · simp only [Bool.and_eq_true, decide_eq_true_eq] at ha h0
      exact ⟨ha.1 ▸ h0.1, ha.2 ▸ h0.2⟩
    · simp only [Bool.and_eq_true, decide_eq_true_eq] at h
      exact ⟨h.1.symm, h.2.symm⟩

/-- What `applyAll` maintains for every span edge of the graph: it is the edge of one of the
descriptors `ds`, and the attribution table holds the event the rule chose for it. -/
def AttrInv (rows : List Row) (ds : List Desc) (g : G) : Prop :=
  ∀ e ∈ g.edges, e.ty = .op → ∃ d ∈ ds, d.ty = .op ∧ e = mkEdge rows d.src d.dst d.ty d.zero ∧
    attrOf g e = some (attrEv e d.par)

theorem build_attrInv (rows : List Row) (ws : Waits) (w : Int × Int) (zl : Bool) :
    AttrInv rows (descs rows (clip rows w) ws zl) (build rows ws w zl).2 :=
  applyAll_induction rows (fun g inv d hd e he hty => by
    rw [applyDesc, attributeEdge_edges] at he
    rcases mem_addEdge.mp he with ⟨heg, hne⟩ | rfl
    · obtain ⟨d0, hd0, hty0, he0, hat⟩ := inv e heg hty
      exact ⟨d0, hd0, hty0, he0, (attrOf_attributeEdge_other _ _ e d.par hne).trans hat⟩
    · exact ⟨d, hd, hty, rfl, (C10_attribution_recorded _ _ d.par).1 (.inl hty)⟩) fun _ h => nomatch h

/-- Every span edge of the critical-path graph is attributed to an event whose span covers the edge's time range
(unless the rule fell through to the root, −1), for a window with unique, non-negative ids, non-negative durations
and properly nested host threads. -/
theorem C10_span_attribution_covers (rows : List Row) (ws : Waits) (w : Int × Int) (zl : Bool)
    (hrows : ∀ r ∈ clip rows w, findRow rows r.idx = some r)
    (hdur : ∀ r ∈ clip rows w, 0 ≤ r.dur) (hidx : ∀ r ∈ clip rows w, 0 ≤ r.idx)
    (hwf : ∀ t ∈ C13.threadsOf (clip rows w), C03.WF ((C13.threadRows (clip rows w) t).map fun r => (⟨r.idx, r.ts, max r.dur 0⟩ : C03.Ev))) :
    ∀ e ∈ (build rows ws w zl).2.edges, e.ty = .op →
      ∃ a, attrOf (build rows ws w zl).2 e = some a ∧
        (0 ≤ a → tsOf rows ⟨a, true⟩ ≤ tsOf rows e.src ∧ tsOf rows e.dst ≤ tsOf rows ⟨a, false⟩) := by
  intro e he hty
  obtain ⟨d, hd, hdty, rfl, hat⟩ := build_attrInv rows ws w zl e he hty
  exact ⟨_, hat, descs_cover ws zl hwf hrows hdur hidx d hd hdty⟩

/-- Every span edge is attributed to an event of the same thread or stream: its two nodes and the attributed event
(unless the root, −1) are events of one `(pid, tid)` family of the window, a host thread or a device stream. The
proof uses the nesting hypothesis `hwf` only: which events a descriptor joins does not depend on their times. -/
theorem C10_span_attribution_same_thread (rows : List Row) (ws : Waits) (w : Int × Int) (zl : Bool)
    (hrows : ∀ r ∈ clip rows w, findRow rows r.idx = some r)
    (hdur : ∀ r ∈ clip rows w, 0 ≤ r.dur) (hidx : ∀ r ∈ clip rows w, 0 ≤ r.idx)
    (hwf : ∀ t ∈ C13.threadsOf (clip rows w), C03.WF ((C13.threadRows (clip rows w) t).map fun r => (⟨r.idx, r.ts, max r.dur 0⟩ : C03.Ev))) :
    ∀ e ∈ (build rows ws w zl).2.edges, e.ty = .op →
      ∃ a, attrOf (build rows ws w zl).2 e = some a ∧ ∃ t,
        (∃ r ∈ C13.threadRows (clip rows w) t, r.idx = e.src.ev) ∧
        (∃ r ∈ C13.threadRows (clip rows w) t, r.idx = e.dst.ev) ∧
        (0 ≤ a → ∃ r ∈ C13.threadRows (clip rows w) t, r.idx = a) := by
  intro e he hty
  obtain ⟨d, hd, hdty, rfl, hat⟩ := build_attrInv rows ws w zl e he hty
  obtain ⟨t, h1, h2, h3⟩ := descs_fam ws zl hwf d hd hdty
  exact ⟨_, hat, t, h1, h2, attrEv_span (Q := fun a => 0 ≤ a → ∃ r ∈ C13.threadRows (clip rows w) t, r.idx = a)
    hdty (fun _ _ => h1) (fun _ _ _ => h2) fun _ _ => h3⟩

/-- One host thread: an operator `a` holding an operator `b` and, after it, an annotation that holds an operator
`c` — the shape on which the parent the walk tracks and the parent of the event it enters differ. -/
def cvRows : List Row := [
  { idx := 0, ts := 0, dur := 20, pid := 1, tid := 1, stream := -1, corr := -1, link := -1, name := "aten::a", cat := "cpu_op" },
  { idx := 1, ts := 2, dur := 3, pid := 1, tid := 1, stream := -1, corr := -1, link := -1, name := "aten::b", cat := "cpu_op" },
  { idx := 2, ts := 6, dur := 12, pid := 1, tid := 1, stream := -1, corr := -1, link := -1, name := "## forward ##", cat := "user_annotation" },
  { idx := 3, ts := 8, dur := 4, pid := 1, tid := 1, stream := -1, corr := -1, link := -1, name := "aten::c", cat := "cpu_op" }]

theorem cvRows_clip : clip cvRows (0, 100) = cvRows :=
  List.mergeSort_of_pairwise (l := cvRows) (by decide +kernel)

/-- `cvRows` meets the hypotheses of `C10_span_attribution_covers` / `C10_span_attribution_same_thread` (and the
host-side ones of `C08_graph_forward`). -/
example :
    (∀ r ∈ clip cvRows (0, 100), findRow cvRows r.idx = some r) ∧
    (∀ r ∈ clip cvRows (0, 100), 0 ≤ r.dur) ∧ (∀ r ∈ clip cvRows (0, 100), 0 ≤ r.idx) ∧
    (∀ t ∈ C13.threadsOf (clip cvRows (0, 100)),
      C03.WF ((C13.threadRows (clip cvRows (0, 100)) t).map fun r => (⟨r.idx, r.ts, max r.dur 0⟩ : C03.Ev))) := by
  rw [cvRows_clip]
  refine ⟨?_, by decide +kernel, by decide +kernel, ?_⟩
  · unfold cvRows
    exact List.forall_mem_cons.2 ⟨rfl, List.forall_mem_cons.2 ⟨rfl, List.forall_mem_cons.2 ⟨rfl, List.forall_mem_singleton.2 rfl⟩⟩⟩
  · intro t ht
    obtain rfl : t = (1, 1) := List.mem_singleton.1 ht
    exact ⟨by decide +kernel, by decide +kernel, by decide +kernel, by unfold C03.Nested; decide +kernel⟩

end Hta.C10
