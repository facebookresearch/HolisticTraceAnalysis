import HtaVerif.Model.C13
import HtaVerif.Proofs.ListLemmas
/-!
# C13 — call-graph attributes (depth, height, kernel totals) agree with the tree
-/
namespace Hta.C13

mutual
  /-- `(ts, dur)` of the device activities in the subtree (the node itself when it is one). -/
  def T.gpuDesc : T → List (Int × Int)
    | .node _ gpu ts dur kids => if gpu then [(ts, dur)] else gpuDescL kids
  def gpuDescL : List T → List (Int × Int)
    | [] => []
    | t :: ts => T.gpuDesc t ++ gpuDescL ts
end

/-- Count, summed duration, earliest start, latest end of a list of activities: what `T.kinfo` is compared with. -/
def foldInfo : List (Int × Int) → KInfo
  | [] => KInfo.zero
  | (ts, dur) :: rest => (⟨1, dur, some ts, some (ts + dur)⟩ : KInfo).add (foldInfo rest)

def sumDur : List (Int × Int) → Int
  | [] => 0
  | x :: xs => x.2 + sumDur xs

theorem optMin_eq_merge : optMin = Option.merge min := by
  funext a b; cases a <;> cases b <;> rfl

theorem optMax_eq_merge : optMax = Option.merge max := by
  funext a b; cases a <;> cases b <;> rfl

theorem KInfo.add_assoc (a b c : KInfo) : (a.add b).add c = a.add (b.add c) := by
  -- core has `Option.merge f` associative whenever `f` is
  simp only [KInfo.add, optMin_eq_merge, optMax_eq_merge, Nat.add_assoc, Int.add_assoc,
    Std.Associative.assoc (op := Option.merge (min : Int → Int → Int)),
    Std.Associative.assoc (op := Option.merge (max : Int → Int → Int))]

theorem KInfo.zero_add (a : KInfo) : KInfo.zero.add a = a := by
  simp only [KInfo.add, KInfo.zero, optMin_eq_merge, optMax_eq_merge, Option.merge_none_left, Nat.zero_add,
    Int.zero_add]

theorem KInfo.add_zero (a : KInfo) : a.add KInfo.zero = a := by
  simp only [KInfo.add, KInfo.zero, optMin_eq_merge, optMax_eq_merge, Option.merge_none_right, Nat.add_zero,
    Int.add_zero]

theorem foldInfo_append (a b : List (Int × Int)) :
    foldInfo (a ++ b) = (foldInfo a).add (foldInfo b) := by
  induction a with
  | nil => exact (KInfo.zero_add _).symm
  | cons x xs ih =>
    obtain ⟨ts, dur⟩ := x
    simp only [List.cons_append, foldInfo, ih, KInfo.add_assoc]

mutual
  /-- The DFS aggregate of `_add_kernel_info_to_cpu_ops` equals the aggregate over the device activities among the
  node's descendants. -/
  theorem C13_kinfo_is_fold_over_descendants : ∀ t : T, t.kinfo = foldInfo t.gpuDesc
    | .node i gpu ts dur kids => by
      unfold T.kinfo T.gpuDesc
      split
      · exact (KInfo.add_zero _).symm
      · exact kinfoL_is_fold kids
  theorem kinfoL_is_fold : ∀ l : List T, kinfoL l = foldInfo (gpuDescL l)
    | [] => rfl
    | t :: ts => by
      unfold kinfoL gpuDescL
      rw [foldInfo_append, C13_kinfo_is_fold_over_descendants t, kinfoL_is_fold ts]
end

theorem foldInfo_eq (l : List (Int × Int)) :
    foldInfo l = ⟨l.length, sumDur l, (l.map (·.1)).min?, (l.map fun x => x.1 + x.2).max?⟩ := by
  induction l with
  | nil => rfl
  | cons x xs ih =>
    obtain ⟨ts, dur⟩ := x
    simp only [foldInfo, ih, KInfo.add, sumDur, List.length_cons, List.map_cons, List.min?_cons, List.max?_cons,
      Nat.add_comm 1]
    cases (xs.map (·.1)).min? <;> cases (xs.map fun x => x.1 + x.2).max? <;> rfl

/-- The reported five numbers of a host event: `(0, 0, 0, -1, -1)` without device activities
beneath it, otherwise count / summed duration / span / earliest start / latest end. -/
theorem C13_kernel_attributes (t : T) :
    (t.gpuDesc = [] → normalize t.kinfo = (0, 0, 0, -1, -1)) ∧
    (t.gpuDesc ≠ [] → ∃ f e, normalize t.kinfo = ((t.gpuDesc.length : Int), sumDur t.gpuDesc, e - f, f, e) ∧
      (∀ x ∈ t.gpuDesc, f ≤ x.1 ∧ x.1 + x.2 ≤ e) ∧ (∃ x ∈ t.gpuDesc, x.1 = f) ∧
      (∃ x ∈ t.gpuDesc, x.1 + x.2 = e)) := by
  rw [C13_kinfo_is_fold_over_descendants, foldInfo_eq]
  refine ⟨fun h => by rw [h]; rfl, fun h => ?_⟩
  obtain ⟨f, hf, hfle, hfa⟩ := min?_map_of_ne_nil (·.1) h
  obtain ⟨e, he, hele, hea⟩ := max?_map_of_ne_nil (fun x => x.1 + x.2) h
  refine ⟨f, e, ?_, fun x hx => ⟨hfle x hx, hele x hx⟩, hfa, hea⟩
  simp only [normalize, hf, he, Option.getD_some, if_neg (mt List.length_eq_zero_iff.mp h)]

/-- `_compute_height`: device activities have height 0, a childless host node 1. -/
theorem C13_height_rule (i : Int) (gpu : Bool) (ts dur : Int) (kids : List T) :
    (T.node i gpu ts dur kids).height = if gpu then 0 else max 1 (heightL kids) := by
  rw [T.height]

theorem heightL_eq (kids : List T) : heightL kids = ((kids.map (·.height + 1)).max?).getD 0 := by
  induction kids with
  | nil => rfl
  | cons t ts ih =>
    rw [heightL, ih, List.map_cons, List.max?_cons]
    cases (ts.map (·.height + 1)).max? with
    | none => exact Nat.max_zero _
    | some m => rfl

theorem heightL_spec (kids : List T) :
    (∀ k ∈ kids, k.height + 1 ≤ heightL kids) ∧ (kids ≠ [] → ∃ k ∈ kids, heightL kids = k.height + 1) := by
  rw [heightL_eq]
  refine ⟨fun k hk => List.le_max?_getD_of_mem (List.mem_map_of_mem hk), fun hne => ?_⟩
  obtain ⟨m, hm, -, k, hk, hkm⟩ := max?_map_of_ne_nil (·.height + 1) hne
  exact ⟨k, hk, by rw [hm]; exact hkm.symm⟩

theorem C13_childless_host_height (i : Int) (ts dur : Int) : (T.node i false ts dur []).height = 1 :=
  rfl

/-- `_compute_depth`: first-layer nodes, whose parent id is negative, have depth 0. -/
theorem C13_depth_rule (nodes : List N) (fuel : Nat) (i : Int) (hi : 0 ≤ i) :
    depthOf nodes (fuel + 1) i =
      if parentOf nodes i < 0 then 0 else depthOf nodes fuel (parentOf nodes i) + 1 := by
  rw [depthOf]
  exact if_neg (Int.not_lt.mpr hi)

/-- `addThread` adds a missing host node by `if hasNode l i then l else l ++ [⟨i, p, false⟩]`;
that adds no device node. -/
theorem mem_of_mem_ite_concat_host {c : Prop} [Decidable c] {l : List N} {n : N} {i p : Int}
    (h : n ∈ if c then l else l ++ [⟨i, p, false⟩]) (hg : n.gpu = true) : n ∈ l := by
  split at h
  · exact h
  · rcases List.mem_append.mp h with h | h
    · exact h
    · rw [List.mem_singleton.mp h] at hg
      cases hg

/-- Every device node added for a thread is a child of the host call it is linked to. -/
theorem C13_device_child_of_launch (rows : List Row) (nodes : List N) (t : Int × Int) :
    ∀ n ∈ addThread rows nodes t, n.gpu = true → n ∈ nodes ∨ (n.idx, n.parent) ∈ gpuEdges rows := by
  simp only [addThread]
  by_cases hdev : isGpuThread (threadRows rows t) = true
  · rw [if_pos hdev]
    exact fun n hn _ => Or.inl hn
  · rw [if_neg hdev]
    -- the fold over `gpuEdges` only appends host nodes and device nodes that come from `gpuEdges`
    apply List.foldlRecOn (motive := fun acc => ∀ n ∈ acc, n.gpu = true →
      n ∈ nodes ∨ (n.idx, n.parent) ∈ gpuEdges rows)
    · intro n hn hg
      rcases List.mem_append.mp hn with h | h
      · exact Or.inl (mem_of_mem_ite_concat_host h hg)
      · obtain ⟨e, _, rfl⟩ := List.mem_map.mp h
        cases hg
    · intro acc hacc e he n hn hg
      rcases mem_ite_cases hn with ⟨_, hn⟩ | ⟨_, hn⟩
      · rcases List.mem_append.mp hn with h | h
        · exact hacc n (mem_of_mem_ite_concat_host h hg) hg
        · rw [List.mem_singleton.mp h]
          exact Or.inr he
      · exact hacc n hn hg

/-- Re-parenting only moves first-layer nodes of the backward stack that lie within the new parent's span, and moves
them beneath that parent: every node of the result is a node of the input with its id and device flag, its parent
kept or changed in that way. -/
theorem C13_reparent_rule (rows : List Row) (bwdRoot : Int) (nodes : List N) (newParent : Int) :
    ∀ n ∈ reparent rows bwdRoot nodes newParent, ∃ n0 ∈ nodes, n.idx = n0.idx ∧ n.gpu = n0.gpu ∧
      (n.parent = n0.parent ∨
        (n.parent = newParent ∧ n0.idx ∈ childrenOf nodes bwdRoot ∧
          ∃ p r, rows.find? (fun r => r.idx == newParent) = some p ∧
            rows.find? (fun r => r.idx == n0.idx) = some r ∧ r.ts ≥ p.ts ∧ r.ts + r.dur ≤ p.ts + p.dur)) := by
  intro n hn
  simp only [reparent] at hn
  -- `bwdRoot` is gone, or `newParent` has no row: nothing moves
  rcases mem_ite_cases hn with ⟨_, hn⟩ | ⟨_, hn⟩
  · exact ⟨n, hn, rfl, rfl, Or.inl rfl⟩
  · split at hn
    · exact ⟨n, hn, rfl, rfl, Or.inl rfl⟩
    · next p hp =>
      -- with or without the final removal of `bwdRoot`, `n` is the image of some `n0 ∈ nodes`
      obtain ⟨n0, hn0, rfl⟩ := List.mem_map.mp
        ((mem_ite_cases hn).elim (fun h => (List.mem_filter.mp h.2).1) (·.2))
      refine ⟨n0, hn0, ?_⟩
      -- `n0` moved exactly if its id is in the list `valid` of the model
      split
      · next hval =>
        obtain ⟨hfirst, hg⟩ := List.mem_filter.mp (List.mem_filter.mp (List.elem_iff.mp hval)).1
        -- `hg`: the model's guard, which tests the span of the row of `n0` against that of `p`
        split at hg
        · next r hr =>
          rw [Bool.and_eq_true, decide_eq_true_eq, decide_eq_true_eq] at hg
          exact ⟨rfl, rfl, Or.inr ⟨rfl, hfirst, p, r, hp, hr, hg⟩⟩
        · cases hg
      · exact ⟨rfl, rfl, Or.inl rfl⟩

/-- A launch call with one kernel below an operator; the operator has height 2 and the kernel
totals of the one kernel. -/
example : (T.node 0 false 0 20 [T.node 1 false 2 3 [T.node 2 true 6 4 []]]).height = 2 ∧
    normalize (T.node 0 false 0 20 [T.node 1 false 2 3 [T.node 2 true 6 4 []]]).kinfo = (1, 4, 4, 6, 10) := by
  decide

end Hta.C13
