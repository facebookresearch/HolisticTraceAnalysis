import HtaVerif.Model.C20
import HtaVerif.Proofs.Assoc
import HtaVerif.Proofs.ListLemmas
/-!
# C20 — trace files written by the tool preserve every source event

List-level statements; JSON and gzip encodings are outside the model (trusted, exercised by
the correspondence run in both file formats).
-/
namespace Hta.C20

/-- The source position an entry of the overlay's source part stands for (`C20_head_in_order`); flow events
have none. -/
def outIdx : Out → Nat
  | .src i _ => i
  | .flow .. => 0

/-- `generate_trace_with_counters` only appends to the source events. -/
theorem C20_counters_prefix (raw cs : List Nat) :
    (withCounters raw cs).take raw.length = raw ∧ (withCounters raw cs).drop raw.length = cs ∧
    ∀ i, i < raw.length → (withCounters raw cs)[i]? = raw[i]? :=
  ⟨List.take_left' rfl, List.drop_left' rfl, fun _ hi => List.getElem?_append_left hi⟩

/-- Soundness of the checker evaluated on the implementation's output. -/
theorem checkAppendOnly_sound {src out : List Nat} {isC : List Bool} (h : checkAppendOnly src out isC = true) :
    ∃ cs, out = withCounters src cs ∧ ∀ j, src.length ≤ j → j < out.length → isC[j]? = some true := by
  unfold checkAppendOnly at h
  simp only [Bool.and_eq_true, decide_eq_true_eq, List.all_eq_true, id] at h
  obtain ⟨⟨⟨h1, _⟩, h3⟩, h4⟩ := h
  refine ⟨out.drop src.length, ?_, fun j hj hlt => ?_⟩
  · have := List.take_append_drop src.length out
    rw [h1] at this
    exact this.symm
  · have hj' := List.getElem?_eq_getElem (l := isC) (i := j) (Nat.lt_of_lt_of_eq hlt h4.symm)
    rw [hj', h3 _ (mem_drop_of_getElem? hj hj')]

theorem isCrit_iff {crit : List Nat} {i : Nat} : isCrit crit i = true ↔ i ∈ crit := by
  simp [isCrit]

theorem keep_true_iff {crit : List Nat} {i : Nat} {e : Src} :
    keep crit true i e = true ↔ e.isX = false ∨ e.keepCat = true ∨ i ∈ crit := by
  simp [keep, isCrit_iff, or_assoc]

theorem keep_of_mem_crit {crit : List Nat} {oc : Bool} {i : Nat} {e : Src} (h : i ∈ crit) :
    keep crit oc i e = true := by
  simp [keep, isCrit_iff.mpr h]

theorem headFrom_eq (crit : List Nat) (oc : Bool) (s : Nat) (raw : List Src) :
    headFrom crit oc s raw =
      ((raw.zipIdx s).filter fun p => keep crit oc p.2 p.1).map fun p => Out.src p.2 (isCrit crit p.2) := by
  induction raw generalizing s with
  | nil => rfl
  | cons e es ih =>
    simp only [headFrom, ih, List.zipIdx_cons, List.filter_cons]
    split <;> rfl

theorem head_eq (raw : List Src) (crit : List Nat) (oc : Bool) :
    head raw crit oc =
      ((raw.zipIdx 0).filter fun p => keep crit oc p.2 p.1).map fun p => Out.src p.2 (isCrit crit p.2) :=
  headFrom_eq crit oc 0 raw

/-- An entry of the source part of `overlay_critical_path_analysis` is a kept source position, carrying the mark iff
critical. -/
theorem C20_head_mem (raw : List Src) (crit : List Nat) (oc : Bool) (o : Out) :
    o ∈ head raw crit oc ↔ ∃ i e, raw[i]? = some e ∧ keep crit oc i e = true ∧ o = Out.src i (isCrit crit i) := by
  simp only [head_eq, List.mem_map, List.mem_filter, List.mem_zipIdx_iff_getElem?, Prod.exists, and_assoc,
    eq_comm (a := o)]
  exact exists_comm

theorem src_mem_head {raw : List Src} {crit : List Nat} {oc : Bool} {i : Nat} {m : Bool} :
    Out.src i m ∈ head raw crit oc ↔ m = isCrit crit i ∧ ∃ e, raw[i]? = some e ∧ keep crit oc i e = true := by
  rw [C20_head_mem]
  constructor
  · rintro ⟨j, e, hj, hk, ho⟩
    cases ho
    exact ⟨rfl, e, hj, hk⟩
  · rintro ⟨rfl, e, hj, hk⟩
    exact ⟨i, e, hj, hk, rfl⟩

/-- Kept source events appear in source order, none twice. -/
theorem C20_head_in_order (raw : List Src) (crit : List Nat) (oc : Bool) :
    (head raw crit oc).Pairwise fun a b => outIdx a < outIdx b := by
  rw [head_eq, List.pairwise_map]
  exact (pairwise_snd_zipIdx raw 0).filter _

/-- Without `only_show_critical_events` the source part has one entry per source position, in order: nothing lost,
reordered or added. -/
theorem C20_overlay_all_kept (raw : List Src) (crit : List Nat) :
    head raw crit false = (List.range raw.length).map fun i => Out.src i (isCrit crit i) := by
  have hk : ∀ p ∈ raw.zipIdx 0, keep crit false p.2 p.1 = true := fun _ _ => rfl
  rw [head_eq, List.filter_eq_self.mpr hk, List.range_eq_range', ← List.zipIdx_map_snd 0 raw,
    List.map_map]
  rfl

/-- The marked entries are exactly the critical positions of the file. -/
theorem C20_marked_iff_critical (raw : List Src) (crit : List Nat) (oc : Bool) (i : Nat) :
    Out.src i true ∈ head raw crit oc ↔ i < raw.length ∧ i ∈ crit := by
  rw [src_mem_head, eq_comm, isCrit_iff]
  constructor
  · rintro ⟨hc, e, he, _⟩
    obtain ⟨hlt, _⟩ := List.getElem?_eq_some_iff.mp he
    exact ⟨hlt, hc⟩
  · rintro ⟨hlt, hc⟩
    exact ⟨hc, _, List.getElem?_eq_getElem hlt, keep_of_mem_crit hc⟩

/-- With `only_show_critical_events` an event is dropped only if it is a complete event, is
not an annotation and is not critical; every critical event stays. -/
theorem C20_only_critical_rule (raw : List Src) (crit : List Nat) (i : Nat) (e : Src) (h : raw[i]? = some e) :
    (∃ m, Out.src i m ∈ head raw crit true) ↔ (e.isX = false ∨ e.keepCat = true ∨ i ∈ crit) := by
  -- `src_mem_head` fixes the mark, `h` the event
  simp only [src_mem_head, exists_eq_left, h, Option.some.injEq, exists_eq_left', keep_true_iff]

theorem flowsFrom_eq (raw : List Src) (k : Nat) (es : List Edge) :
    flowsFrom raw k es = (es.zipIdx k).flatMap fun p => flowPair raw p.2 p.1 := by
  induction es generalizing k with
  | nil => rfl
  | cons e es ih => rw [flowsFrom, ih, List.zipIdx_cons, List.flatMap_cons]

theorem flowsFrom_length (raw : List Src) (k : Nat) (es : List Edge) :
    (flowsFrom raw k es).length = 2 * es.length := by
  induction es generalizing k with
  | nil => rfl
  | cons e es ih => rw [flowsFrom, List.length_append, ih, List.length_cons, Nat.mul_succ, Nat.add_comm]; rfl

/-- The j-th drawn edge yields, at positions 2j and 2j+1, a start and an end flow event with id j on the process and
thread of the two events the edge joins, at the times of the edge's two nodes. -/
theorem C20_flows_two_per_edge (raw : List Src) (k : Nat) (es : List Edge) (j : Nat) (e : Edge) (h : es[j]? = some e) :
    (flowsFrom raw k es)[2 * j]? = some (Out.flow (k + j) true (raw.getD e.srcEv dflt).pid (raw.getD e.srcEv dflt).tid
        (flowTs (raw.getD e.srcEv dflt) e.srcIsStart) e.type e.weight e.critical) ∧
    (flowsFrom raw k es)[2 * j + 1]? = some (Out.flow (k + j) false (raw.getD e.dstEv dflt).pid (raw.getD e.dstEv dflt).tid
        (flowTs (raw.getD e.dstEv dflt) e.dstIsStart) e.type e.weight e.critical) := by
  induction es generalizing k j with
  | nil => cases h
  | cons e' es ih =>
    cases j with
    | zero =>
      cases h
      exact ⟨rfl, rfl⟩
    | succ j =>
      -- `flowsFrom raw k (e' :: es)` computes to `a :: b :: flowsFrom raw (k + 1) es`; `ih` has the id `k + 1 + j` for
      -- `k + (j + 1)`
      have := ih (k + 1) j h
      rwa [Nat.add_right_comm, Nat.add_assoc] at this

/-- With `show_all_edges` and without `only_show_critical_events` every edge is drawn, the zero-weight launch
delays only if the option `critical_path_show_zero_weight_launch_edges` is set; in every other case the critical
edges are drawn. -/
theorem C20_drawn_rule (all critEdges : List Edge) (oc sa sz : Bool) (e : Edge) :
    e ∈ drawn all critEdges oc sa sz ↔
      if sa = true ∧ oc = false then (e ∈ all ∧ (sz = true ∨ zeroLaunch e = false)) else e ∈ critEdges := by
  simp only [drawn, Bool.and_eq_true, Bool.not_eq_true']
  by_cases hc : sa = true ∧ oc = false
  · rw [if_pos hc, if_pos hc]
    cases sz <;> simp
  · rw [if_neg hc, if_neg hc]

/-- The overlay only appends: its source part comes first and contains no flow event, and
the rest consists of flow events only. -/
theorem C20_overlay_shape (raw : List Src) (crit : List Nat) (all ce : List Edge) (oc sa sz : Bool) :
    overlay raw crit all ce oc sa sz = head raw crit oc ++ flowsFrom raw 0 (drawn all ce oc sa sz) ∧
    (∀ o ∈ head raw crit oc, ∃ i m, o = Out.src i m) ∧
    (∀ o ∈ flowsFrom raw 0 (drawn all ce oc sa sz), ∃ id s p t ts c w cr, o = Out.flow id s p t ts c w cr) := by
  refine ⟨rfl, fun o ho => ?_, fun o ho => ?_⟩
  · obtain ⟨i, _, _, _, rfl⟩ := (C20_head_mem _ _ _ _).mp ho
    exact ⟨i, _, rfl⟩
  · rw [flowsFrom_eq, List.mem_flatMap] at ho
    obtain ⟨p, _, hp⟩ := ho
    simp only [flowPair, List.mem_cons, List.not_mem_nil, or_false] at hp
    rcases hp with rfl | rfl <;> exact ⟨_, _, _, _, _, _, _, _, rfl⟩

theorem getKey_eq (d : Doc) (k : String) : getKey d k = assocGet d k := rfl

/-- `setKey` keeps the key of the entry it overwrites, which is the key it was given. -/
theorem setKey_eq (d : Doc) (k : String) (v : Nat) : setKey d k v = assocSet d k v := by
  unfold setKey assocSet
  congr 1
  refine List.map_congr_left fun p _ => ?_
  split
  · next h => rw [eq_of_beq h]
  · rfl

theorem getKey_setKey (d : Doc) (k k' : String) (v : Nat) :
    getKey (setKey d k v) k' = if k' = k then some v else getKey d k' := by
  rw [getKey_eq, getKey_eq, setKey_eq, assocGet_assocSet]

/-- `update_trace_rank` sets the rank and nothing else: every other field of the metadata object
keeps its value, and the field order is kept (a missing rank is appended). -/
theorem C20_update_rank_only_rank (di : Option Doc) (r : Nat) :
    getKey (setRank di r) "rank" = some r ∧
    ∀ d, di = some d → (∀ k', k' ≠ "rank" → getKey (setRank di r) k' = getKey d k') ∧
      ((setRank di r).map (·.1) = if d.any (fun p => p.1 == "rank") then d.map (·.1) else d.map (·.1) ++ ["rank"]) := by
  constructor
  · cases di with
    | none => rfl
    | some d => exact (getKey_setKey d "rank" "rank" r).trans (if_pos rfl)
  · rintro d rfl
    exact ⟨fun k' hk => (getKey_setKey d "rank" k' r).trans (if_neg hk),
      (congrArg (List.map (·.1)) (setKey_eq d "rank" r)).trans (assocSet_keys d "rank" r)⟩

/-- A critical host operator, a metadata record, a device kernel that is not critical, and one drawn edge from the
start to the end of event 0: only-critical drops the kernel, and both flow events carry the process and thread of
event 0. -/
example : overlay [⟨true, false, 1, 2, 10, 5, false⟩, ⟨false, false, 0, 0, 0, 0, false⟩, ⟨true, false, 0, 7, 12, 4, true⟩]
    [0] [⟨0, true, 0, false, 5, "critical_path_operator", true⟩, ⟨0, true, 2, true, 0, "critical_path_kernel_launch_delay", false⟩]
    [⟨0, true, 0, false, 5, "critical_path_operator", true⟩] true false false
  = [Out.src 0 true, Out.src 1 false,
     Out.flow 0 true 1 2 10 "critical_path_operator" 5 true, Out.flow 0 false 1 2 15 "critical_path_operator" 5 true] := by
  decide +kernel

example : checkAppendOnly [4, 5, 6] [4, 5, 6, 9, 9] [false, false, false, true, true] = true := by decide +kernel
example : checkAppendOnly [4, 5, 6] [4, 6, 5, 9] [false, false, false, true] = false := by decide +kernel

end Hta.C20
