import HtaVerif.Model.C01
import HtaVerif.Proofs.ListLemmas
/-!
# C01 — loaded events are a faithful, uniformly time-shifted image of the trace file
-/
namespace Hta.C01

theorem rowOf_eq_some {i : Nat} {e : RawEntry} {r : PRow} :
    rowOf i e = some r ↔ ∃ d c, e.dur = some d ∧ e.cat = some c ∧ c ≠ "Trace" ∧
      r = ⟨i, startOf e, endOf e d - startOf e, endOf e d, e.pid, e.tid,
        e.stream.getD (-1), e.corr.getD (-1), e.name, c⟩ := by
  unfold rowOf
  split
  · next d c hd hc =>
    have hf : startOf e + (endOf e d - startOf e) = endOf e d := by omega
    simp [hd, hc, hf, eq_comm (a := r)]
  · next h => exact ⟨nofun, fun ⟨d, c, hd, hc, _⟩ => (h d c hd hc).elim⟩

theorem rowOf_idx {i : Nat} {e : RawEntry} {r : PRow} (h : rowOf i e = some r) :
    r.idx = i := by
  obtain ⟨_, _, -, -, -, rfl⟩ := rowOf_eq_some.mp h
  rfl

theorem rowOf_isSome (i : Nat) (e : RawEntry) : (rowOf i e).isSome = complete e := by
  unfold rowOf complete
  cases e.dur with
  | none => rfl
  | some d =>
    cases e.cat with
    | none => rfl
    | some c => by_cases h : c = "Trace" <;> simp [h]

theorem parseFrom_eq (i : Nat) (es : List RawEntry) :
    parseFrom i es = (es.zipIdx i).filterMap fun p => rowOf p.2 p.1 := by
  induction es generalizing i with
  | nil => rfl
  | cons e es ih =>
    rw [parseFrom, ih, List.zipIdx_cons, List.filterMap_cons]
    cases rowOf i e <;> rfl

theorem parseRank_eq (es : List RawEntry) : parseRank es = (es.zipIdx 0).filterMap fun p => rowOf p.2 p.1 :=
  parseFrom_eq 0 es

/-- The rows are those of the complete entries, each identified by its position in the file; no incomplete entry
(metadata, flow, instant, the 'Trace' span) yields one. That there is one row per entry is
`C01_parse_idx_increasing`. -/
theorem C01_parse_rows_exact (es : List RawEntry) (r : PRow) :
    r ∈ parseRank es ↔ ∃ k e, es[k]? = some e ∧ complete e = true ∧ rowOf k e = some r := by
  rw [parseRank_eq]
  simp only [List.mem_filterMap, Prod.exists, List.mk_mem_zipIdx_iff_getElem?]
  constructor
  · rintro ⟨e, k, hk, hr⟩
    exact ⟨k, e, hk, by rw [← rowOf_isSome k e, hr]; rfl, hr⟩
  · rintro ⟨k, e, hk, -, hr⟩
    exact ⟨e, k, hk, hr⟩

/-- Row ids strictly increase, hence are distinct: one row per entry. -/
theorem C01_parse_idx_increasing (es : List RawEntry) :
    (parseRank es).Pairwise fun a b => a.idx < b.idx := by
  rw [parseRank_eq]
  refine (pairwise_snd_zipIdx es 0).filterMap _ fun p q hpq a ha b hb => ?_
  rw [rowOf_idx ha, rowOf_idx hb]
  exact Int.ofNat_lt.mpr hpq

theorem minL_eq_min? (l : List Int) : minL l = l.min? := by
  induction l with
  | nil => rfl
  | cons x xs ih => rw [minL, ih, List.min?_cons]; cases xs.min? <;> rfl

theorem shift_zero : shift 0 = id := funext fun r => by simp [shift]

/-- After loading a set of ranks every start time equals the file's (rounded) timestamp minus
one constant shared by all ranks, `end` moves with it, and nothing else changes. -/
theorem C01_align_uniform (ranks : List (List PRow)) :
    (align ranks).2 = ranks.map (fun rows => rows.map (shift (align ranks).1)) := by
  unfold align
  cases minTs ranks with
  | none => simp [shift_zero]
  | some c => rfl

/-- The constant is the earliest start time of all ranks, so it puts the earliest event at 0. -/
theorem C01_align_min_zero (ranks : List (List PRow)) (hne : ranks.flatten ≠ []) :
    (∃ r ∈ (align ranks).2.flatten, r.ts = 0) ∧ ∀ r ∈ (align ranks).2.flatten, 0 ≤ r.ts := by
  obtain ⟨c, hc, hle, r0, hr0, hts⟩ := min?_map_of_ne_nil (·.ts) hne
  have hc : (align ranks).1 = c := by unfold align minTs; rw [minL_eq_min?, hc]
  rw [C01_align_uniform, ← List.map_flatten, hc]
  exact ⟨⟨_, List.mem_map_of_mem hr0, Int.sub_eq_zero.mpr hts⟩,
    List.forall_mem_map.mpr fun r hr => Int.sub_nonneg.mpr (hle r hr)⟩

/-- `end = ts + dur` (`parse_trace_file`) survives rounding and alignment. -/
theorem C01_end_eq_ts_plus_dur (files : List (List RawEntry)) :
    ∀ rows ∈ (loadAll files).2, ∀ r ∈ rows, r.fin = r.ts + r.dur := by
  intro rows hrows r hr
  rw [loadAll, C01_align_uniform, List.map_map] at hrows
  obtain ⟨es, -, rfl⟩ := List.mem_map.mp hrows
  obtain ⟨r0, hr0, rfl⟩ := List.mem_map.mp hr
  obtain ⟨k, e, -, -, hrow⟩ := (C01_parse_rows_exact es r0).mp hr0
  obtain ⟨d, _, -, -, -, rfl⟩ := rowOf_eq_some.mp hrow
  show endOf e d - _ = startOf e - _ + (endOf e d - startOf e)
  omega

theorem floorUs_mono {a b : Int} (h : a ≤ b) : floorUs a ≤ floorUs b :=
  Int.ediv_le_ediv (by decide) h

theorem ceilUs_mono {a b : Int} (h : a ≤ b) : ceilUs a ≤ ceilUs b :=
  floorUs_mono (Int.add_le_add_right h 999)

theorem floorUs_le_ceilUs (n : Int) : floorUs n ≤ ceilUs n :=
  floorUs_mono (Int.le_add_of_nonneg_right (by decide))

/-- A rounded event never extends beyond its original span. -/
theorem C01_round_inward (ts d : Int) :
    ts ≤ 1000 * ceilUs ts ∧ 1000 * floorUs (ts + d) ≤ ts + d := by
  unfold ceilUs floorUs; omega

/-- Containment between events is preserved by rounding. -/
theorem C01_round_preserves_containment (a da b db : Int)
    (h1 : a ≤ b) (h2 : b + db ≤ a + da) :
    ceilUs a ≤ ceilUs b ∧ floorUs (b + db) ≤ floorUs (a + da) :=
  ⟨ceilUs_mono h1, floorUs_mono h2⟩

/-- Disjointness between events is preserved by rounding. -/
theorem C01_round_preserves_disjoint (a da b : Int) (h : a + da ≤ b) :
    floorUs (a + da) ≤ ceilUs b :=
  Int.le_trans (floorUs_mono h) (floorUs_le_ceilUs b)

/-- On integer-microsecond input rounding is the identity. -/
theorem C01_round_integer (ts d : Int) :
    ceilUs (1000 * ts) = ts ∧ floorUs (1000 * ts + 1000 * d) = ts + d := by
  constructor
  · rw [ceilUs, Int.add_comm, Int.add_mul_ediv_left _ _ (by decide)]
    exact Int.zero_add ts
  · rw [floorUs, ← Int.mul_add, Int.mul_ediv_cancel_left _ (by decide)]

/-- An operator, a metadata entry, the 'Trace' span and a fractional kernel (1.5 + 2.25 us ->
[2, 3]); the two complete events yield rows 0 and 3. -/
example : parseRank
    [⟨5000, some 2000, some "cpu_op", "aten::add", 1, 1, none, none⟩,
     ⟨0, none, none, "process_name", 1, 0, none, none⟩,
     ⟨5000, some 9000, some "Trace", "PyTorch Profiler (0)", 0, 0, none, none⟩,
     ⟨1500, some 2250, some "kernel", "k", 0, 7, some 7, some 4⟩]
    = [⟨0, 5, 2, 7, 1, 1, -1, -1, "aten::add", "cpu_op"⟩, ⟨3, 2, 1, 3, 0, 7, 7, 4, "k", "kernel"⟩] := by
  decide +kernel

end Hta.C01
