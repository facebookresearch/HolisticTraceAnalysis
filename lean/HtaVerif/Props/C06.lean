import HtaVerif.Spec.C06
/-!
# C06 — idle-time breakdown: gaps between stream-consecutive kernels, classified by rule

`s` is the stream's kernel list in any order that `sort_values(by=["ts","dur"])` may
return (`SortedK s`).
-/
namespace Hta.C06

theorem noOverlap_perm {a b : List K} (h : a.Perm b) : NoOverlap a ↔ NoOverlap b :=
  h.pairwise_iff (fun {x y} hxy => by
    rcases hxy with h1 | h1
    · exact Or.inr h1
    · exact Or.inl h1)

/-- In stream order every earlier kernel ends no later than every later kernel starts: the
consecutive kernels of the sorted list are the consecutive kernels of the stream, and each
gap is a genuine idle interval. -/
theorem C06_stream_order {s : List K} (hno : NoOverlap s) (hs : SortedK s)
    (hnn : ∀ k ∈ s, 0 ≤ k.dur) : s.Pairwise fun a b => a.fin ≤ b.ts := by
  have := hno.and hs
  refine (List.Pairwise.and_mem.mp this).imp ?_
  rintro a b ⟨ha, hb, hor, hle⟩
  have hda := hnn a ha
  have hdb := hnn b hb
  unfold kLe at hle
  unfold K.fin at *
  simp only [Bool.or_eq_true, Bool.and_eq_true, decide_eq_true_eq] at hle
  -- if `b` ends no later than `a` starts although `a` sorts first, both are zero-length at one
  -- instant, so `a.fin = b.ts` all the same
  omega

theorem sumGaps_gapsFrom (delay : Int) (ks : List K) : ∀ prevEnd : Int,
    sumGaps (gapsFrom delay prevEnd ks) = lastFin prevEnd ks - prevEnd - sumDur ks := by
  induction ks with
  | nil => intro p; simp [gapsFrom, sumGaps, lastFin, sumDur]
  | cons k ks ih =>
    intro p
    simp only [gapsFrom, sumGaps, lastFin, sumDur]
    rw [ih k.fin]
    simp only [K.fin]
    omega

/-- The gaps of a stream add up to its span minus its busy time. -/
theorem C06_idle_telescopes (delay : Int) (k : K) (ks : List K) :
    sumGaps (gaps delay (k :: ks)) = (lastFin k.fin ks - k.ts) - sumDur (k :: ks) := by
  simp only [gaps, sumGaps_gapsFrom, sumDur, K.fin]
  omega

/-- The three categories partition the gaps: the reported idle times add up to the total. -/
theorem C06_categories_partition (g : List (Int × Cat)) :
    sumCat .hostWait g + sumCat .kernelWait g + sumCat .other g = sumGaps g := by
  induction g with
  | nil => rfl
  | cons x xs ih =>
    obtain ⟨v, c⟩ := x
    -- a gap counts in exactly one category
    have : (if c == .hostWait then v else 0) + (if c == .kernelWait then v else 0)
        + (if c == .other then v else 0) = v := by cases c <;> simp +decide
    simp only [sumCat, sumGaps]
    omega

theorem C06_analyze_total (delay : Int) (k : K) (ks : List K) :
    let o := analyze delay (k :: ks)
    o.hostWait + o.kernelWait + o.other = (lastFin k.fin ks - k.ts) - sumDur (k :: ks) := by
  simp only [analyze]
  rw [C06_categories_partition, C06_idle_telescopes]

/-- Every gap is classified by the documented rule, with the end of the preceding kernel. -/
theorem C06_classify_rule (delay prevEnd : Int) (k : K) :
    (catOf delay prevEnd k = .hostWait ↔ ∃ l, k.launchTs = some l ∧ l > prevEnd) ∧
    (catOf delay prevEnd k = .kernelWait ↔
      (¬ ∃ l, k.launchTs = some l ∧ l > prevEnd) ∧ k.ts - prevEnd < delay) ∧
    (catOf delay prevEnd k = .other ↔
      (¬ ∃ l, k.launchTs = some l ∧ l > prevEnd) ∧ ¬ k.ts - prevEnd < delay) := by
  unfold catOf
  cases hk : k.launchTs with
  | none => by_cases h : k.ts - prevEnd < delay <;> simp [h]
  | some l =>
    by_cases h1 : l > prevEnd <;> by_cases h2 : k.ts - prevEnd < delay <;> simp [h1, h2]

theorem gaps_nonneg_of_ordered (delay : Int) {s : List K} (h : s.Pairwise fun a b => a.fin ≤ b.ts) :
    ∀ g ∈ gaps delay s, 0 ≤ g.1 := by
  induction s with
  | nil => exact List.forall_mem_nil _
  | cons k ks ih =>
    cases ks with
    | nil => exact List.forall_mem_nil _
    | cons k' ks =>
      -- `gaps delay (k :: k' :: ks)` is the gap from `k` to `k'` followed by `gaps delay (k' :: ks)`
      exact List.forall_mem_cons.mpr
        ⟨Int.sub_nonneg.mpr (List.rel_of_pairwise_cons h List.mem_cons_self), ih h.of_cons⟩

/-- All gaps are non-negative when the kernels do not overlap. -/
theorem C06_gaps_nonneg (delay : Int) {s : List K} (hno : NoOverlap s) (hs : SortedK s)
    (hnn : ∀ k ∈ s, 0 ≤ k.dur) : ∀ g ∈ gaps delay s, 0 ≤ g.1 :=
  gaps_nonneg_of_ordered delay (C06_stream_order hno hs hnn)

/-- host_wait (launch at 12 after the previous end 10), kernel_wait (gap 1 < 3), other (gap 5), and a zero-length
kernel sharing its start with its successor. -/
example : analyze 3
    [⟨0, 10, some 0⟩, ⟨15, 5, some 12⟩, ⟨21, 0, some 13⟩, ⟨21, 4, none⟩, ⟨30, 1, some 2⟩]
    = { hostWait := 5, kernelWait := 1, other := 5, hostPresent := true, kernelPresent := true } := by
  decide

end Hta.C06
