import HtaVerif.Proofs.C09
import HtaVerif.Props.C08
/-!
# C09 — the reported critical path is a maximum-weight path of the graph

`networkx.dag_longest_path` is not modelled; its answer is validated per run by a checker whose
soundness is proved here: a potential-function certificate bounds the weight of every path
of the graph, so a reported path whose weight meets the bound is a maximum-weight path.
-/
namespace Hta.C09

theorem pathWeight_le_potential (es : List WEdge) (f : Nat → Int)
    (hf : ∀ e ∈ es, e.w ≤ f e.dst - f e.src) :
    ∀ (p : List Nat) (a : Nat), isPath es (a :: p) = true →
      pathWeight es (a :: p) ≤ f ((a :: p).getLast (by simp)) - f a := by
  intro p
  induction p with
  | nil => exact fun a _ => Int.le_of_eq (Int.sub_self _).symm
  | cons b rest ih =>
    intro a hp
    obtain ⟨e, hmem, rfl, rfl, hfe, hrest⟩ := isPath_cons_cons hp
    simp only [pathWeight, hfe, Option.map_some, Option.getD_some]
    -- `f e.src + e.w ≤ f e.dst` and `f e.dst + (weight of the rest) ≤ f last`
    exact Int.le_sub_left_of_add_le (Int.add_assoc .. ▸ Int.le_trans
      (Int.add_le_add_right (Int.add_le_of_le_sub_left (hf e hmem)) _) (Int.add_le_of_le_sub_left (ih _ hrest)))

/-- Certificate soundness: if `d` is a non-negative potential bounded by `D`, every path of the graph weighs at
most `D`. -/
theorem C09_potential_bounds_all_paths (es : List WEdge) (d : Nat → Int) (D : Int)
    (hpot : ∀ e ∈ es, d e.src + e.w ≤ d e.dst) (hnn : ∀ v, 0 ≤ d v) (hD : ∀ v, d v ≤ D)
    (p : List Nat) (hp : isPath es p = true) : pathWeight es p ≤ D := by
  cases p with
  | nil => simp [isPath] at hp
  | cons a rest =>
    exact Int.le_trans (pathWeight_le_potential es d (fun e he => Int.le_sub_left_of_add_le (hpot e he)) rest a hp)
      (Int.le_trans (Int.sub_le_self _ (hnn a)) (hD _))

/-- Hence a reported path whose weight equals the bound is a maximum-weight path. -/
theorem C09_reported_path_is_maximum (es : List WEdge) (d : Nat → Int) (D : Int)
    (hpot : ∀ e ∈ es, d e.src + e.w ≤ d e.dst) (hnn : ∀ v, 0 ≤ d v) (hD : ∀ v, d v ≤ D)
    (reported : List Nat) (hw : pathWeight es reported = D) :
    ∀ p, isPath es p = true → pathWeight es p ≤ pathWeight es reported :=
  hw ▸ C09_potential_bounds_all_paths es d D hpot hnn hD

/-- The path never exceeds the makespan: with weights at most the time difference of their endpoints (C08), a path
weighs at most the time from its first to its last node. -/
theorem C09_path_le_makespan (es : List WEdge) (ts : Nat → Int)
    (hw : ∀ e ∈ es, e.w ≤ ts e.dst - ts e.src) (a : Nat) (rest : List Nat)
    (hp : isPath es (a :: rest) = true) :
    pathWeight es (a :: rest) ≤ ts ((a :: rest).getLast (by simp)) - ts a :=
  pathWeight_le_potential es ts hw rest a hp

/-- The reported edge set (`critical_path_edges_set`) has as many members as the path has consecutive pairs of nodes,
each an edge of the graph. -/
theorem C09_path_edges (es : List WEdge) :
    ∀ (p : List Nat) (a : Nat), isPath es (a :: p) = true →
      (pathEdges es (a :: p)).length = p.length ∧ ∀ e ∈ pathEdges es (a :: p), e ∈ es := by
  intro p
  induction p with
  | nil => intro a _; simp [pathEdges]
  | cons b rest ih =>
    intro a hp
    obtain ⟨e, hmem, _, _, hfe, hrest⟩ := isPath_cons_cons hp
    obtain ⟨hl, hm⟩ := ih b hrest
    simp only [pathEdges, hfe, Option.toList_some, List.singleton_append, List.length_cons, hl]
    exact ⟨trivial, List.forall_mem_cons.mpr ⟨hmem, hm⟩⟩

theorem checkPotential_sound (es : List WEdge) (d : Nat → Int) (D : Int) (nodes : List Nat)
    (h : checkPotential es d D nodes = true) :
    (∀ e ∈ es, d e.src + e.w ≤ d e.dst) ∧ ∀ v ∈ nodes, 0 ≤ d v ∧ d v ≤ D := by
  simp only [checkPotential, Bool.and_eq_true, List.all_eq_true, decide_eq_true_eq] at h
  exact ⟨h.1, fun v hv => h.2 v hv⟩

/-- The longest-path programme is a certificate for every DAG: for any duplicate-free node order in which every
edge's source comes before its target (a topological order, e.g. networkx's), the distances it computes are a
non-negative potential bounded by `best`. -/
theorem C09_dp_is_potential (es : List WEdge) (order : List Nat) (hnd : order.Nodup)
    (htopo : ∀ e ∈ es, Before order e.src e.dst) :
    (∀ e ∈ es, distOf (dp es order) e.src + e.w ≤ distOf (dp es order) e.dst) ∧
    (∀ v, 0 ≤ distOf (dp es order) v) ∧ (∀ v, distOf (dp es order) v ≤ best (dp es order)) :=
  ⟨fun e he => dp_potential hnd he (htopo e he),
    distOf_cases _ (fun _ => Int.le_refl 0) fun q hq => (Sound.dp es order q hq).1, distOf_le_best _⟩

/-- No path of a DAG outweighs the programme's optimum. With `C09_reported_path_is_maximum`: a reported path whose
weight equals `best (dp es order)` is a maximum-weight path, for every graph and every topological order. -/
theorem C09_dp_bounds_all_paths (es : List WEdge) (order : List Nat) (hnd : order.Nodup)
    (htopo : ∀ e ∈ es, Before order e.src e.dst) (p : List Nat) (hp : isPath es p = true) :
    pathWeight es p ≤ best (dp es order) := by
  obtain ⟨h1, h2, h3⟩ := C09_dp_is_potential es order hnd htopo
  exact C09_potential_bounds_all_paths es (distOf (dp es order)) (best (dp es order)) h1 h2 h3 p hp

/-- The programme's optimum is attained by some path of the graph. With `C09_dp_bounds_all_paths`: `best` is the
maximum path weight, so comparing a reported path's weight with it decides optimality exactly. -/
theorem C09_dp_optimum_attained (es : List WEdge) (huniq : EdgesUnique es) (order : List Nat)
    (hnd : order.Nodup) (htopo : ∀ e ∈ es, Before order e.src e.dst) :
    ∃ p, isPath es p = true ∧ pathWeight es p = best (dp es order) := by
  rcases List.mem_cons.mp (foldl_max_spec ((dp es order).map (·.2)) 0).1 with h0 | hm
  · -- the maximum is the initial 0: a one-node path weighs 0
    exact ⟨[0], rfl, h0.symm⟩
  · obtain ⟨q, hq, hval⟩ := List.mem_map.mp hm
    obtain ⟨p, h1, h3⟩ := (Sound.dp es order q hq).2.exists_path huniq [] rfl
    exact ⟨p, h1, h3.trans ((Int.add_zero _).trans hval)⟩

/-- The hypotheses of the three theorems above, on a concrete DAG. -/
example : EdgesUnique [⟨0, 1, 5⟩, ⟨1, 2, 0⟩, ⟨0, 2, 3⟩] ∧ [0, 1, 2].Nodup ∧
    ∀ e ∈ ([⟨0, 1, 5⟩, ⟨1, 2, 0⟩, ⟨0, 2, 3⟩] : List WEdge), Before [0, 1, 2] e.src e.dst := by
  refine ⟨by unfold EdgesUnique; decide, by decide, ?_⟩
  intro e he
  simp only [List.mem_cons, List.not_mem_nil, or_false] at he
  rcases he with rfl | rfl | rfl
  · exact ⟨[0], [2], rfl, by simp⟩
  · exact ⟨[0, 1], [], rfl, by simp⟩
  · exact ⟨[0, 1], [], rfl, by simp⟩

example : pathWeight [⟨0, 1, 5⟩, ⟨1, 2, 0⟩, ⟨0, 2, 3⟩] [0, 1, 2] = 5 ∧
    best (dp [⟨0, 1, 5⟩, ⟨1, 2, 0⟩, ⟨0, 2, 3⟩] [0, 1, 2]) = 5 := by decide

open Hta.C08 in
/-- The makespan clause for the graph the analysis builds. `num` numbers the nodes of the built graph in any way
(networkx numbers them in creation order) and `ts'` gives each number its node's time. Under the hypotheses of
`C08_graph_forward_of_trace` every path of the graph, in particular the reported critical path, weighs at most the
time from its first to its last node, hence at most the makespan of the analysed window. -/
theorem C09_built_graph_path_within_makespan (rows : List Row) (ws : Waits) (w : Int × Int) (zl : Bool)
    (hrows : ∀ r ∈ clip rows w, findRow rows r.idx = some r)
    (hunique : (clip rows w).Pairwise fun a b => a.idx ≠ b.idx)
    (hdur : ∀ r ∈ clip rows w, 0 ≤ r.dur)
    (hwf : ∀ t ∈ C13.threadsOf (clip rows w), C03.WF ((C13.threadRows (clip rows w) t).map fun r => (⟨r.idx, r.ts, max r.dur 0⟩ : C03.Ev)))
    (htc : TraceCausal rows (clip rows w) ws (kernelRows rows (clip rows w)))
    (num : NodeId → Nat) (ts' : Nat → Int) (hts : ∀ n, ts' (num n) = tsOf rows n)
    (a : Nat) (rest : List Nat)
    (hp : isPath ((build rows ws w zl).2.edges.map fun e => (⟨num e.src, num e.dst, e.weight⟩ : WEdge)) (a :: rest) = true) :
    pathWeight ((build rows ws w zl).2.edges.map fun e => (⟨num e.src, num e.dst, e.weight⟩ : WEdge)) (a :: rest)
      ≤ ts' ((a :: rest).getLast (by simp)) - ts' a := by
  refine C09_path_le_makespan _ ts' (List.forall_mem_map.mpr fun e he => ?_) a rest hp
  simp only [hts]
  -- the weight is 0 or the time difference, and the edge points forward
  exact (C08_edge_weight_rule rows ws w zl e he).2.elim
    (fun h => h ▸ Int.sub_nonneg_of_le ((C08_graph_forward_of_trace rows ws w zl hrows hunique hdur hwf htc).1 e he))
    Int.le_of_eq

end Hta.C09
