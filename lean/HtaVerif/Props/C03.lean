import HtaVerif.Proofs.C03Stack
/-!
# C03 — call stack: parent is the innermost enclosing event on the thread

`es` are the events of one host thread (`WF`). `S` is any list of their endpoint tokens sorted by the key
order `tokLt po`: what `sorted()` returns for either builder's comparator, both of which are that order
(`C03_lessThanNew_is_key_order`, `C03_cmpOld_is_key_order`). `po` is arbitrary in the structural theorems;
the builders use "a positive event starts here" (`hasPO`).
-/
namespace Hta.C03

variable (po : Int → Bool) (es : List Ev) (wf : WF es) (S : List Tok)
  (hperm : S.Perm (tokens es)) (hs : S.Pairwise (tokLt po))

include wf hperm hs in
/-- Every event appears exactly once. -/
theorem C03_each_event_once : ((build S).map (·.1)).Perm (es.map (·.idx)) := by
  have h := (hperm.filter isOpen).map (·.idx)
  rw [filter_isOpen_tokens, List.map_map, ← (final_inv wf hperm hs).outIdx] at h
  exact h

/-- The parent of `f` as the property states it. -/
def IsParent (es : List Ev) (f : Ev) (p : Int) : Prop :=
  (p = -1 ∧ ∀ c ∈ es, ¬ Encl c f) ∨
  (∃ a ∈ es, p = a.idx ∧ Encl a f ∧ ∀ c ∈ es, Encl c f → c = a ∨ Encl c a)

include wf hperm hs in
/-- A positive-duration event's parent is the innermost event whose span
contains it (identical spans nest in id order, touching spans are siblings); it is the root
exactly when no event contains it. -/
theorem C03_parent_is_innermost (f : Ev) (hf : f ∈ es) (hpos : f.dur > 0) (p : Int) (d : Nat)
    (hent : (f.idx, p, d) ∈ build S) : IsParent es f p := by
  have hiff := fun c hc => tokEncl_iff po wf (c := c) hc hf hpos
  rcases parent_is_innermost_tok wf hperm hs hf hent with ⟨rfl, hno⟩ | ⟨a, ha, rfl, hta, hin⟩
  · exact Or.inl ⟨rfl, fun c hc henc => hno c hc ((hiff c hc).mpr henc)⟩
  · have hea := (hiff a ha).mp hta
    exact Or.inr ⟨a, ha, rfl, hea, fun c hc henc =>
      (hin c hc ((hiff c hc).mpr henc)).imp_right (tokEncl_iff po wf hc ha hea.2.1).mp⟩

theorem Encl.asymm {a b : Ev} (h : Encl a b) : ¬ Encl b a := by
  unfold Encl Ev.fin at *; omega

theorem isParent_unique
    (f : Ev) (p p' : Int) (h : IsParent es f p) (h' : IsParent es f p') : p = p' := by
  rcases h with ⟨rfl, hno⟩ | ⟨a, ha, rfl, hea, hin⟩ <;> rcases h' with ⟨rfl, hno'⟩ | ⟨a', ha', rfl, hea', hin'⟩
  · rfl
  · exact absurd hea' (hno a' ha')
  · exact absurd hea (hno' a ha)
  · rcases hin a' ha' hea' with h1 | h1
    · rw [h1]
    · rcases hin' a ha hea with h2 | h2
      · rw [h2]
      · exact absurd h2 h1.asymm

include wf hperm hs in
/-- An event's depth is the number of events whose tokens enclose its own. -/
theorem C03_depth_counts_enclosers (f : Ev) (hf : f ∈ es) (p : Int) (d : Nat)
    (hent : (f.idx, p, d) ∈ build S) :
    d = (es.filter fun e => decide (TokEncl po e f)).length := by
  obtain ⟨stk, hsorted, hmem, _, rfl⟩ := entry_stack wf hperm hs hf hent
  -- the stack and the start tokens of the enclosing events have the same members, each once
  have hp : stk.Perm ((es.filter fun e => decide (TokEncl po e f)).map openTok) := by
    refine (List.perm_ext_iff_of_nodup (nodup_of_pairwise hsorted (tokLt_irrefl po)) ((List.filter_sublist.map
      openTok).nodup (wf.nodup.map openTok fun _ _ => mt openTok_inj))).mpr fun x => ?_
    rw [hmem x]
    simp only [List.mem_map, List.mem_filter, decide_eq_true_eq]
    constructor
    · rintro ⟨e, he, rfl, ht⟩; exact ⟨e, ⟨he, ht⟩, rfl⟩
    · rintro ⟨e, ⟨he, ht⟩, rfl⟩; exact ⟨e, he, rfl, ht⟩
  rw [hp.length_eq, List.length_map]

include wf hperm hs in
/-- A zero-duration event is placed beneath the root or beneath an event whose closed span
contains its instant. -/
theorem C03_zero_placement (z : Ev) (hz : z ∈ es) (hzero : z.dur = 0) (p : Int) (d : Nat)
    (hent : (z.idx, p, d) ∈ build S) :
    p = -1 ∨ ∃ a ∈ es, p = a.idx ∧ a.ts ≤ z.ts ∧ z.ts ≤ a.ts + a.dur := by
  have h := parent_contains wf hperm hs hz hent
  rwa [hzero, Int.add_zero] at h

/-- Of two spans that merely touch neither encloses the other. -/
theorem C03_touching_not_enclosing (a b : Ev) (ha : a.dur > 0) (hb : b.dur > 0) (ht : a.ts + a.dur = b.ts) :
    ¬ Encl a b ∧ ¬ Encl b a := by
  unfold Encl Ev.fin; omega

/-- The pairs the comparators are called on: distinct tokens of a well-formed event family (same id: the two
ends of one event), with `po` true wherever a positive-duration event starts. -/
def Dom (po : Int → Bool) (x y : Tok) : Prop :=
  TokOk x ∧ TokOk y ∧ x ≠ y ∧
  (x.idx = y.idx → x.dur = y.dur ∧ x.kind ≠ y.kind ∧
    (x.kind = -1 → y.time = x.time + x.dur) ∧ (x.kind = 1 → x.time = y.time + y.dur)) ∧
  (x.kind = -1 → x.dur > 0 → po x.time = true) ∧ (y.kind = -1 → y.dur > 0 → po y.time = true)

theorem Dom.same_id {po : Int → Bool} {x y : Tok} (h : Dom po x y) (hi : x.idx = y.idx) :
    tokLt po x y ↔ x.kind = -1 := by
  obtain ⟨hx, hy, _, hsame, _, _⟩ := h
  obtain ⟨hd, hk, h1, h2⟩ := hsame hi
  obtain ⟨i, d, k, t⟩ := x
  obtain ⟨i', d', k', t'⟩ := y
  simp only at hi hd hk h1 h2
  subst hi hd
  rcases hx.1 with rfl | rfl
  · obtain rfl : k' = 1 := hy.1.resolve_left (Ne.symm hk)
    obtain rfl := h1 rfl
    exact iff_of_true (open_lt_close po (e := ⟨i, t, d⟩) hx.2) rfl
  · obtain rfl : k' = -1 := hy.1.resolve_right (Ne.symm hk)
    obtain rfl := h2 rfl
    exact iff_of_false (tokLt_asymm (open_lt_close po (e := ⟨i, t', d⟩) hx.2)) (show ¬ (1 : Int) = -1 by decide)

/-! ### the two comparators

`_less_than` tests durations first, as the order table does, and its proof follows it `if` by `if` (`ite_eq_of`) with a
row of the table `tokLt_zero_pos` … `tokLt_pos_pos` at each leaf. `compare_events` tests kinds first: for it the table is
restated in that order (`Dom.tokLt_same_time`), after which function and table make the same tests and agree leaf by
leaf (`IsCmp.congr`). -/

theorem ite_eq_of {α : Type} {c : Prop} [Decidable c] {a b r : α} (ha : c → a = r) (hb : ¬ c → b = r) :
    (if c then a else b) = r := by
  split
  · exact ha ‹_›
  · exact hb ‹_›

theorem some_eq_decide {b : Bool} {P : Prop} [Decidable P] (h : b = true ↔ P) : some b = some (decide P) := by
  cases b <;> simp [← h]

/-- `_less_than` and `_cmp_events_with_zero_duration` with their tests as propositions. -/
theorem lessThanNew_eq (po : Int → Bool) (x y : Tok) : lessThanNew po x y =
    if ¬ x.time = y.time then some (decide (x.time < y.time))
    else if x.idx = y.idx then some (x.kind == -1)
    else if x.dur = 0 ∨ y.dur = 0 then
      if x.dur = 0 ∧ 0 < y.dur then some (y.kind == 1 && !po x.time)
      else if 0 < x.dur ∧ y.dur = 0 then some (x.kind == -1 || po x.time)
      else if x.dur = 0 ∧ y.dur = 0 then
        if x.kind = -1 ∧ y.kind = -1 then some (decide (x.idx < y.idx))
        else if x.kind = 1 ∧ y.kind = 1 then some (decide (y.idx < x.idx))
        else some (x.kind == -1)
      else none
    else if x.kind = 1 ∧ y.kind = -1 then some true
    else if x.kind = -1 ∧ y.kind = 1 then some false
    else if (x.kind = -1 ∧ y.kind = -1) ∧ ¬ x.dur = y.dur then some (decide (y.dur < x.dur))
    else if (x.kind = 1 ∧ y.kind = 1) ∧ ¬ x.dur = y.dur then some (decide (x.dur < y.dur))
    else if x.kind = -1 then some (decide (x.idx < y.idx))
    else some (decide (y.idx < x.idx)) := by
  simp only [lessThanNew, cmpZeroNew, bne_iff_ne, ne_eq, beq_iff_eq, Bool.and_eq_true, Bool.or_eq_true,
    decide_eq_true_eq, gt_iff_lt]

/-- The newer builder's comparator `_less_than` is the key order. -/
theorem C03_lessThanNew_is_key_order (po : Int → Bool) (x y : Tok) (h : Dom po x y) :
    lessThanNew po x y = some (decide (tokLt po x y)) := by
  have ⟨hx, hy, _, _, hpx, hpy⟩ := h
  rw [lessThanNew_eq]
  refine ite_eq_of (fun hne => some_eq_decide ?_) fun hnn => ite_eq_of (fun hi => some_eq_decide ?_) fun _ => ?_
  · rw [tokLt_of_time_ne hne, decide_eq_true_iff]
  · rw [h.same_id hi, beq_iff_eq]
  have ht : x.time = y.time := Decidable.not_not.mp hnn
  refine ite_eq_of (fun hz => ?_) fun hz => ?_
  · -- a zero-duration token is involved: `_cmp_events_with_zero_duration`
    refine ite_eq_of (fun hzp => some_eq_decide ?_) fun hzp => ite_eq_of (fun hpz => some_eq_decide ?_) fun hpz =>
      ite_eq_of (fun hzz => ?_) fun hzz => ?_
    · -- the class decides; a start of positive duration makes `po` true
      rw [tokLt_zero_pos po ht hzp.1 hzp.2, Bool.and_eq_true, beq_iff_eq, Bool.not_eq_true']
      exact and_iff_right_of_imp fun hpo => hy.1.resolve_left fun k => by rw [ht, hpy k hzp.2] at hpo; cases hpo
    · rw [tokLt_pos_zero po ht hpz.1 hpz.2, Bool.or_eq_true, beq_iff_eq]
      exact or_iff_right_of_imp fun k => hpx k hpz.1
    · -- for each pair of kinds the chain of tests evaluates to the table's entry
      have tab := tokLt_zero_zero po hx hy ht hzz.1 hzz.2
      rcases hx.1 with k | k <;> rcases hy.1 with k' | k' <;> simp [tab, k, k']
    · rcases hz with e | e
      · exact absurd ⟨e, (Int.lt_or_eq_of_le hy.2).resolve_right fun e' => hzz ⟨e, e'.symm⟩⟩ hzp
      · exact absurd ⟨(Int.lt_or_eq_of_le hx.2).resolve_right fun e' => hzz ⟨e'.symm, e⟩, e⟩ hpz
  · -- two positive durations
    have tab := tokLt_pos_pos po hx hy ht ((Int.lt_or_eq_of_le hx.2).resolve_right fun e => hz (Or.inl e.symm))
      ((Int.lt_or_eq_of_le hy.2).resolve_right fun e => hz (Or.inr e.symm))
    -- kinds differ: one of the first two tests, and the table's `y.kind < x.kind`; kinds agree: the next two
    -- tests and the last merge into one `if x.dur = y.dur`, which `split` decides, as in the table's row
    rcases hx.1 with k | k <;> rcases hy.1 with k' | k' <;> simp [tab, k, k'] <;> split <;> simp [*]

/-- `c` is a three-way comparator's result for the strict order `P`: negative exactly when `P` holds,
and never a tie. -/
def IsCmp (c : Int) (P : Prop) : Prop := (c < 0 ↔ P) ∧ c ≠ 0

theorem IsCmp.ite {c : Prop} [Decidable c] {a b : Int} {P : Prop} (ha : c → IsCmp a P) (hb : ¬ c → IsCmp b P) :
    IsCmp (if c then a else b) P := by
  split
  · exact ha ‹_›
  · exact hb ‹_›

theorem IsCmp.neg {P : Prop} (h : P) : IsCmp (-1) P := ⟨iff_of_true (by decide) h, by decide⟩
theorem IsCmp.pos {P : Prop} (h : ¬ P) : IsCmp 1 P := ⟨iff_of_false (by decide) h, by decide⟩
theorem IsCmp.sub {a b : Int} (h : ¬ a - b = 0) : IsCmp (a - b) (a < b) :=
  ⟨⟨Int.lt_of_sub_neg, Int.sub_neg_of_lt⟩, h⟩

/-- The same test on either side. -/
theorem IsCmp.congr {c : Prop} [Decidable c] {a b : Int} {P Q : Prop} (ha : c → IsCmp a P) (hb : ¬ c → IsCmp b Q) :
    IsCmp (if c then a else b) (if c then P else Q) := by
  split
  · exact ha ‹_›
  · exact hb ‹_›

theorem IsCmp.test {c : Prop} [Decidable c] : IsCmp (if c then -1 else 1) c := .ite .neg .pos
theorem IsCmp.ntest {c : Prop} [Decidable c] : IsCmp (if c then 1 else -1) (¬ c) :=
  .ite (fun h => .pos (not_not_intro h)) .neg

/-- The key order at one instant on the comparators' domain, with the tests `compare_events` makes, in its order: by
kind (two starts, two ends, a start and an end), then by duration. A leaf `c` stands where the function has
`if c then -1 else 1`, `¬ c` where it has `if c then 1 else -1`, and `<` for a three-way comparison of ids. -/
theorem Dom.tokLt_same_time {po : Int → Bool} {x y : Tok} (h : Dom po x y) (ht : x.time = y.time) :
    tokLt po x y ↔
      if x.kind = y.kind then
        if x.kind = -1 then
          if x.dur = y.dur then x.idx < y.idx else ¬ x.dur < y.dur
        else
          if x.dur = y.dur then y.idx < x.idx
          else if (x.dur = 0 ∨ y.dur = 0) ∧ po x.time = true then ¬ x.dur = 0
          else x.dur < y.dur
      else
        if 0 < x.dur ∧ 0 < y.dur then ¬ x.kind = -1
        else if x.dur = 0 ∧ y.dur = 0 then x.kind = -1
        else if po x.time = true ∧ (if x.dur = 0 then y.kind = 1 else x.kind = 1) then ¬ x.dur = 0
        else x.kind = -1 := by
  obtain ⟨hx, hy, -, -, hpx, hpy⟩ := h
  -- by duration, a row of the order table each; under it the tree is evaluated for each pair of kinds
  rcases Int.lt_or_eq_of_le hx.2 with hxp | hxz <;> rcases Int.lt_or_eq_of_le hy.2 with hyp | hyz
  · -- ends before starts; of one kind by duration, then by id (`split` is on `x.dur = y.dur`)
    rw [tokLt_pos_pos po hx hy ht hxp hyp]
    rcases hx.1 with k | k <;> rcases hy.1 with k' | k' <;>
      simp [k, k', hxp, hyp, Int.ne_of_gt hxp, Int.ne_of_gt hyp] <;> split <;> simp [*] <;> omega
  · -- `po` decides, and it holds where a positive event starts
    rw [tokLt_pos_zero po ht hxp hyz.symm]
    rcases hx.1 with k | k <;> rcases hy.1 with k' | k' <;>
      simp [k, k', hpx, hxp, ← hyz, Int.ne_of_gt hxp, Int.not_lt.mpr (Int.le_of_lt hxp)]
  · rw [tokLt_zero_pos po ht hxz.symm hyp, ht]
    rcases hx.1 with k | k <;> rcases hy.1 with k' | k' <;>
      simp [k, k', hpy, hyp, ← hxz, Int.ne_of_gt hyp, Int.ne_of_lt hyp]
  · -- starts before ends, of one kind by id
    rw [tokLt_zero_zero po hx hy ht hxz.symm hyz.symm]
    rcases hx.1 with k | k <;> rcases hy.1 with k' | k' <;> simp [k, k', ← hxz, ← hyz]

/-- The older builder's comparator `compare_events` is the key order (and never reports a tie
between distinct tokens). -/
theorem C03_cmpOld_is_key_order (po : Int → Bool) (x y : Tok) (h : Dom po x y) :
    (cmpOld po x y < 0 ↔ tokLt po x y) ∧ (cmpOld po x y ≠ 0) := by
  show IsCmp (cmpOld po x y) (tokLt po x y)
  -- the tests of `compare_events` as propositions
  simp only [cmpOld, bne_iff_ne, ne_eq, beq_iff_eq, Bool.and_eq_true, Bool.or_eq_true, decide_eq_true_eq,
    gt_iff_lt, Bool.ite_eq_true_distrib]
  refine .ite (fun hi => ?_) fun hi => .ite (fun hsub => ?_) fun hsub => ?_
  · rw [h.same_id hi]
    exact .test
  · rw [tokLt_of_time_ne fun e => hsub (Int.sub_eq_zero.mpr e)]
    exact .sub hsub
  -- one instant: test for test the tree of `Dom.tokLt_same_time`; distinct ids exclude the ties
  rw [h.tokLt_same_time (Int.sub_eq_zero.mp (Decidable.not_not.mp hsub))]
  have tie {P : Prop} (h1 : ¬ x.idx < y.idx) (h2 : ¬ y.idx < x.idx) : P :=
    absurd (Int.le_antisymm (Int.not_lt.mp h2) (Int.not_lt.mp h1)) hi
  refine .congr (fun _ => .congr (fun _ => ?_) fun _ => ?_) fun _ => ?_
  · -- two starts
    exact .congr (fun _ => .ite .neg fun h1 => .ite (fun _ => .pos h1) (tie h1)) fun _ => .ntest
  · -- two ends
    exact .congr (fun _ => .ite (fun h1 => .pos (Int.lt_asymm h1)) fun h1 => .ite .neg (tie h1)) fun _ =>
      .congr (fun _ => .ntest) fun _ => .test
  · -- a start and an end
    exact .congr (fun _ => .ntest) fun _ => .congr (fun _ => .test) fun _ => .congr (fun _ => .ntest) fun _ => .test

/-! ### the executable model sorts with one particular algorithm -/

/-- `C03_parent_is_innermost` for the executable model `run` (both builders after sorting). -/
theorem C03_run_parent_is_innermost (es : List Ev) (wf : WF es) (f : Ev) (hf : f ∈ es) (hpos : f.dur > 0)
    (p : Int) (d : Nat) (hent : (f.idx, p, d) ∈ run es) : IsParent es f p :=
  have ⟨hperm, hs⟩ := sortToks_spec (hasPO es) wf
  C03_parent_is_innermost _ es wf _ hperm hs f hf hpos p d hent

theorem C03_run_each_event_once (es : List Ev) (wf : WF es) :
    ((run es).map (·.1)).Perm (es.map (·.idx)) :=
  have ⟨hperm, hs⟩ := sortToks_spec (hasPO es) wf
  C03_each_event_once _ es wf _ hperm hs

theorem WF.sublist {l es : List Ev} (h : l.Sublist es) (wf : WF es) : WF l :=
  ⟨fun e he => wf.durNonneg e (h.subset he),
   fun a ha b hb => wf.idxInj a (h.subset ha) b (h.subset hb),
   h.nodup wf.nodup,
   fun a ha b hb => wf.nested a (h.subset ha) b (h.subset hb)⟩

theorem IsParent.congr {l l' : List Ev} {f : Ev} {p : Int} (h : ∀ c, Encl c f → (c ∈ l ↔ c ∈ l')) :
    IsParent l f p → IsParent l' f p := by
  rintro (⟨rfl, hno⟩ | ⟨a, ha, rfl, hea, hin⟩)
  · exact Or.inl ⟨rfl, fun c hc he => hno c ((h c he).mpr hc) he⟩
  · exact Or.inr ⟨a, (h a hea).mp ha, rfl, hea, fun c hc he => hin c ((h c he).mpr hc) he⟩

/-- Deleting all zero-duration events leaves every positive-duration event's parent unchanged. -/
theorem C03_zero_dur_transparent (es : List Ev) (wf : WF es) (f : Ev) (hf : f ∈ es) (hpos : f.dur > 0)
    (p p' : Int) (d d' : Nat) (h : (f.idx, p, d) ∈ run es)
    (h' : (f.idx, p', d') ∈ run (es.filter fun e => decide (e.dur > 0))) : p = p' := by
  have h1 := C03_run_parent_is_innermost es wf f hf hpos p d h
  have hf' : f ∈ es.filter fun e => decide (e.dur > 0) := List.mem_filter.mpr ⟨hf, decide_eq_true hpos⟩
  have h2 := C03_run_parent_is_innermost _ (wf.sublist List.filter_sublist) f hf' hpos p' d' h'
  exact isParent_unique es f p p' h1 (h2.congr fun c he =>
    ⟨fun hc => (List.mem_filter.mp hc).1, fun hc => List.mem_filter.mpr ⟨hc, decide_eq_true he.2.1⟩⟩)

/-- The input on which both builders' comparators were cyclic at the pinned commit (DESIGN §0.4, defects 14 and 15):
the zero-duration event 3 exactly where 1 ends and 2 begins. 2 is a root, not a child of 1. -/
example : build [openTok ⟨1, 0, 5⟩, closeTok ⟨1, 0, 5⟩, openTok ⟨2, 5, 5⟩, openTok ⟨3, 5, 0⟩, closeTok ⟨3, 5, 0⟩,
    closeTok ⟨2, 5, 5⟩] = [(1, -1, 0), (2, -1, 0), (3, 2, 1)] := by decide
/-- That token list is in key order: at instant 5 event 1 closes, then 2 opens, then the zero-duration 3. -/
example : tokLt (hasPO [⟨1, 0, 5⟩, ⟨3, 5, 0⟩, ⟨2, 5, 5⟩]) (closeTok ⟨1, 0, 5⟩) (openTok ⟨2, 5, 5⟩) ∧
    tokLt (hasPO [⟨1, 0, 5⟩, ⟨3, 5, 0⟩, ⟨2, 5, 5⟩]) (openTok ⟨2, 5, 5⟩) (openTok ⟨3, 5, 0⟩) := by decide
/-- A token list in file order, not in key order (of two identical spans the smaller id opens first): the loop
nests the events as the list presents them, 4 beneath 9. -/
example : build [openTok ⟨9, 0, 10⟩, openTok ⟨4, 0, 10⟩, openTok ⟨7, 3, 0⟩, closeTok ⟨7, 3, 0⟩,
    closeTok ⟨4, 0, 10⟩, closeTok ⟨9, 0, 10⟩] = [(9, -1, 0), (4, 9, 1), (7, 4, 2)] := by decide

end Hta.C03
