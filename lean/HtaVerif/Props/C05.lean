import HtaVerif.Proofs.Interval
import HtaVerif.Proofs.C05
/-!
# C05 — kernel breakdown partitions busy time by type and conserves per-kernel time

`types` is the list of analysed kernel types as `(marker value, start-sorted intervals)`;
HTA uses the values 1, 2, 4. `ms` is any time-sorted permutation of the concatenated
markers (the code re-sorts with an unstable sort after adding each type).
-/
namespace Hta.C05

theorem stepOf_markersAll {types : List (Int × List Iv)} {lo hi : Int}
    (hs : ∀ p ∈ types, SortedByStart p.2 ∧ ∀ x ∈ p.2, x.1 ≤ x.2)
    (hwin : ∀ p ∈ types, ∀ x ∈ p.2, lo ≤ x.1 ∧ x.2 ≤ hi) :
    StepOf (markersAll types) lo hi (maskAt types) := by
  induction types with
  | nil => exact StepOf.nil lo hi
  | cons p rest ih =>
    obtain ⟨v, s⟩ := p
    have h := hs (v, s) List.mem_cons_self
    exact ((mergeSorted_facts (.refl _) h.1 h.2).stepOf (hwin (v, s) List.mem_cons_self) v).append
      (ih (fun q hq => hs q (List.mem_cons_of_mem _ hq)) fun q hq => hwin q (List.mem_cons_of_mem _ hq))

/-- Every combination's reported time is the time during which exactly that combination runs. -/
theorem C05_type_time_exact
    (types : List (Int × List Iv)) (ms : List Marker) (lo : Int) (n : Nat)
    (hs : ∀ p ∈ types, SortedByStart p.2 ∧ ∀ x ∈ p.2, x.1 ≤ x.2)
    (hms : ms.Perm (markersAll types)) (hsm : SortedByTime ms)
    (hwin : ∀ p ∈ types, ∀ x ∈ p.2, lo ≤ x.1 ∧ x.2 ≤ lo + n) :
    TypeTimeHolds types lo n (typeTime ms) := fun m hm =>
  sweep_eq_cells (fun r => r == m) (beq_eq_false_iff_ne.mpr (Ne.symm hm)) hms hsm
    (stepOf_markersAll hs hwin)

theorem maskAt_perm (v : Int) {s s' : List Iv} (h : s.Perm s') (rest : List (Int × List Iv)) (t : Int) :
    maskAt ((v, s) :: rest) t = maskAt ((v, s') :: rest) t := by
  simp only [maskAt, covers_perm h t]

/-- Three analysed types (values 1, 2, 4): the seven rows add up to the measure of the
union of all analysed kernels. -/
theorem C05_type_total_three (a b c : List Iv) (lo : Int) (n : Nat) :
    (cells lo n (fun t => maskAt [(1, a), (2, b), (4, c)] t == 1)
      + cells lo n (fun t => maskAt [(1, a), (2, b), (4, c)] t == 2)
      + cells lo n (fun t => maskAt [(1, a), (2, b), (4, c)] t == 3)
      + cells lo n (fun t => maskAt [(1, a), (2, b), (4, c)] t == 4)
      + cells lo n (fun t => maskAt [(1, a), (2, b), (4, c)] t == 5)
      + cells lo n (fun t => maskAt [(1, a), (2, b), (4, c)] t == 6)
      + cells lo n (fun t => maskAt [(1, a), (2, b), (4, c)] t == 7))
      = cells lo n (fun t => covers a t || covers b t || covers c t) := by
  simp only [cells_eq_sumOver, ← sumOver_add]
  refine sumOver_congr fun t _ _ => ?_
  simp only [maskAt]
  cases covers a t <;> cases covers b t <;> cases covers c t <;> rfl

/-- Two analysed types (values 1, 2). -/
theorem C05_type_total_two (a b : List Iv) (lo : Int) (n : Nat) :
    (cells lo n (fun t => maskAt [(1, a), (2, b)] t == 1)
      + cells lo n (fun t => maskAt [(1, a), (2, b)] t == 2)
      + cells lo n (fun t => maskAt [(1, a), (2, b)] t == 3))
      = cells lo n (fun t => covers a t || covers b t) := by
  simp only [cells_eq_sumOver, ← sumOver_add]
  refine sumOver_congr fun t _ _ => ?_
  simp only [maskAt]
  cases covers a t <;> cases covers b t <;> rfl

/-- Per-kernel table: conservation, the bound on named rows, and exact statistics of named
rows — for every order `st` of the per-name statistics (so for every tie-break pandas may
choose), every `num_kernels` and every quantile cut position `j0`. -/
theorem C05_aggr (ks : List (String × Int)) (st : List Stat) (hst : st.Perm (groupStats ks))
    (numKernels j0 : Nat) :
    AggrHolds ks numKernels (aggrOrdered st numKernels j0) := by
  have hsum : sumL (st.map (·.sum)) = sumL (ks.map (·.2)) := by
    rw [sumL_perm (hst.map _), group_sum]
  have hnd : (st.map (·.name)).Nodup :=
    (hst.map (·.name)).nodup_iff.mpr (by rw [groupStats_names]; exact distinct_nodup _)
  have hmem : ∀ s ∈ st, s.name ∈ ks.map (·.1) ∧ s = statOf ks s.name :=
    fun s hs => mem_groupStats (hst.mem_iff.mp hs)
  unfold aggrOrdered
  split
  · next hgt =>
    refine ⟨?_, ?_, ?_, ?_⟩
    · show sumL ((st.take _).map (·.sum)) + sumL ((st.drop _).map (·.sum)) = _
      rw [← sumL_append, ← List.map_append, List.take_append_drop, hsum]
    · exact Nat.le_trans (List.length_take_le _ _) (Nat.min_le_right _ _)
    · exact (List.Sublist.map _ (List.take_sublist _ _)).nodup hnd
    · intro s hs; exact hmem s (List.mem_of_mem_take hs)
  · next hle =>
    exact ⟨(Int.add_zero _).trans hsum, Nat.le_of_not_lt hle, hnd, hmem⟩

/-- The executable model uses one particular order. -/
theorem C05_runAggr (ks : List (String × Int)) (numKernels j0 : Nat) :
    AggrHolds ks numKernels (runAggr ks numKernels j0) :=
  C05_aggr ks _ (List.mergeSort_perm _ _) numKernels j0

/-- Three names, two named rows; conservation 10+30+7+5 = 40 + 7 + 5. -/
example : aggrOrdered
    [⟨"a", 40, 30, 10, 2⟩, ⟨"b", 7, 7, 7, 1⟩, ⟨"c", 5, 5, 5, 1⟩] 2 3
    = { named := [⟨"a", 40, 30, 10, 2⟩, ⟨"b", 7, 7, 7, 1⟩], others := some 5 } := by decide

end Hta.C05
