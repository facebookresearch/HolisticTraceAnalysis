import HtaVerif.Model.C11
import HtaVerif.Proofs.Assoc
import HtaVerif.Proofs.ListLemmas
/-!
# C11 — symbol ids are a stable bijection; results ignore id numbering and parse order
-/
namespace Hta.C11

/-- The invariant of every reachable table: the dictionary `sym_index` is exactly the inverse of the duplicate-free
list `sym_table`. -/
structure Inv (t : Tab) : Prop where
  nodup : t.table.Nodup
  index_iff : ∀ s i, lookup t.index s = some i ↔ t.table[i]? = some s

theorem lookup_eq (ix : List (String × Nat)) (s : String) : lookup ix s = assocGet ix s := rfl

theorem inv_empty : Inv Tab.empty :=
  ⟨List.nodup_nil, by intro s i; simp [lookup, Tab.empty]⟩

theorem Inv.mem_iff {t : Tab} (h : Inv t) {s : String} : s ∈ t.table ↔ ∃ i, lookup t.index s = some i :=
  List.mem_iff_getElem.trans (exists_congr fun i => List.getElem?_eq_some_iff.symm.trans (h.index_iff s i).symm)

theorem Inv.lookup_eq_none {t : Tab} (h : Inv t) {s : String} : lookup t.index s = none ↔ s ∉ t.table := by
  rw [h.mem_iff, ← Option.isSome_iff_exists, Option.not_isSome_iff_eq_none]

/-- `add` with its test read off the list instead of the dictionary. -/
theorem Tab.add_eq {t : Tab} (h : Inv t) (s : String) : t.add s =
    if s ∈ t.table then t else ⟨t.table ++ [s], t.index ++ [(s, t.table.length)]⟩ := by
  simp only [h.mem_iff, ← Option.isSome_iff_exists]
  unfold Tab.add
  cases lookup t.index s <;> rfl

theorem inv_add {t : Tab} (h : Inv t) (s : String) : Inv (t.add s) := by
  rw [Tab.add_eq h]
  by_cases hs : s ∈ t.table
  · rwa [if_pos hs]
  · rw [if_neg hs]
    refine ⟨(List.perm_append_singleton s _).nodup_iff.mpr (List.nodup_cons.mpr ⟨hs, h.nodup⟩), fun s' i => ?_⟩
    -- both sides split into "already there" and "the new entry"
    rw [lookup_eq, assocGet_concat, Option.or_eq_some_iff, getElem?_concat_eq_some, ← lookup_eq,
      h.index_iff]
    simp only [Option.ite_none_right_eq_some, Option.some.injEq, beq_iff_eq]
    exact or_congr_right ⟨fun ⟨_, e1, e2⟩ => ⟨e2.symm, e1.symm⟩,
      fun ⟨e1, e2⟩ => ⟨h.lookup_eq_none.mpr (e2 ▸ hs), e2.symm, e1.symm⟩⟩

theorem inv_addAll {t : Tab} (h : Inv t) (ss : List String) : Inv (t.addAll ss) :=
  List.foldlRecOn ss Tab.add h fun _ ht s _ => inv_add ht s

/-- Every table that `add_symbols` builds from the empty one satisfies the invariant. -/
theorem C11_inv_reachable (ss : List String) : Inv (Tab.empty.addAll ss) :=
  inv_addAll inv_empty ss

/-- An id once assigned never changes: the old table is a prefix of the new one. -/
theorem C11_ids_stable (t : Tab) (ss : List String) : ∃ new, (t.addAll ss).table = t.table ++ new := by
  refine List.foldlRecOn (motive := fun t' => ∃ new, t'.table = t.table ++ new) ss Tab.add
    ⟨[], (List.append_nil _).symm⟩ ?_
  rintro t' ⟨new, hnew⟩ s -
  unfold Tab.add
  split
  · exact ⟨new, hnew⟩
  · exact ⟨new ++ [s], by rw [hnew, List.append_assoc]⟩

theorem C11_decode_stable (t : Tab) (ss : List String) (i : Nat) (s : String)
    (h : t.decode i = some s) : (t.addAll ss).decode i = some s := by
  obtain ⟨new, hnew⟩ := C11_ids_stable t ss
  unfold Tab.decode at *
  rw [hnew, List.getElem?_append_left (List.getElem?_eq_some_iff.mp h).1]
  exact h

theorem C11_decode_encode {t : Tab} (h : Inv t) (s : String) (i : Nat) :
    t.encode s = some i ↔ t.decode i = some s := h.index_iff s i

theorem Tab.mem_table_add {t : Tab} (h : Inv t) (a s : String) :
    s ∈ (t.add a).table ↔ s ∈ t.table ∨ s = a := by
  rw [Tab.add_eq h]
  by_cases ha : a ∈ t.table
  · rw [if_pos ha]
    exact ⟨Or.inl, fun hs => hs.elim id (· ▸ ha)⟩
  · rw [if_neg ha, List.mem_append, List.mem_singleton]

theorem Tab.mem_table_addAll {t : Tab} (h : Inv t) (ss : List String) (s : String) :
    s ∈ (t.addAll ss).table ↔ s ∈ t.table ∨ s ∈ ss := by
  induction ss generalizing t with
  | nil => exact (or_iff_left List.not_mem_nil).symm
  | cons a ss ih =>
    show s ∈ ((t.add a).addAll ss).table ↔ _
    rw [ih (inv_add h a), Tab.mem_table_add h, List.mem_cons, or_assoc]

/-- After multi-rank loading every rank's rows decode to that rank's original strings:
re-encoding a local id through any table that contains the local vocabulary preserves the
decoded string. -/
theorem C11_reencode_correct {loc glob : Tab} (hg : Inv glob)
    (hcover : ∀ s ∈ loc.table, s ∈ glob.table) (i : Nat) (s : String) (h : loc.decode i = some s) :
    ∃ j, reencode loc glob i = some j ∧ glob.decode j = some s := by
  have hs : s ∈ loc.table := List.mem_of_getElem? h
  obtain ⟨j, hj⟩ := hg.mem_iff.mp (hcover s hs)
  refine ⟨j, ?_, (hg.index_iff s j).mp hj⟩
  unfold reencode
  rw [h]; exact hj

theorem globalOf_eq (locals : List Tab) : globalOf locals = Tab.empty.addAll (locals.flatMap (·.table)) :=
  List.foldl_flatMap.symm

/-- The global table built from the ranks' local tables — in any order of the ranks, so
for every worker completion order — is a bijection containing exactly the union of the
vocabularies; hence every rank re-encodes correctly against it. -/
theorem C11_global_any_order (locals perm : List Tab) (hp : perm.Perm locals) :
    Inv (globalOf perm) ∧ ∀ s, s ∈ (globalOf perm).table ↔ ∃ l ∈ locals, s ∈ l.table := by
  rw [globalOf_eq]
  refine ⟨inv_addAll inv_empty _, fun s => ?_⟩
  rw [Tab.mem_table_addAll inv_empty, List.mem_flatMap]
  exact (or_iff_right (List.not_mem_nil (a := s))).trans (exists_congr fun l => and_congr_left' hp.mem_iff)

/-- Results are independent of the numbering: two bijective tables that both contain a string decode their own
encodings of it to the same string. -/
theorem C11_numbering_free {t1 t2 : Tab} (h1 : Inv t1) (h2 : Inv t2) (s : String)
    (hs1 : s ∈ t1.table) (hs2 : s ∈ t2.table) :
    ∃ i j, t1.encode s = some i ∧ t2.encode s = some j ∧ t1.decode i = t2.decode j := by
  obtain ⟨i, hi⟩ := h1.mem_iff.mp hs1
  obtain ⟨j, hj⟩ := h2.mem_iff.mp hs2
  exact ⟨i, j, hi, hj, by unfold Tab.decode; rw [(h1.index_iff s i).mp hi, (h2.index_iff s j).mp hj]⟩

example : (Tab.empty.addAll ["a", "b", "a", "c", "b"]).table = ["a", "b", "c"] := by decide
example : reencode (Tab.empty.addAll ["x", "b"]) (Tab.empty.addAll ["a", "b", "x"]) 0 = some 2 := by decide

end Hta.C11
