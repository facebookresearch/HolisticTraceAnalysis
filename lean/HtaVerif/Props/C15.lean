import HtaVerif.Spec.C15
import HtaVerif.Proofs.ListLemmas
/-!
# C15 — launch statistics list every launch/activity pair with exact durations and delay
-/
namespace Hta.C15

/-- Host rows have distinct correlation ids, so `h` is `l`. -/
theorem WF.selected_of_corr {withMem : Bool} {rows : List Row} (wf : WF withMem rows) {h l : Row}
    (hh : h ∈ rows) (hs : h.stream = -1) (hl : l ∈ rows) (hsel : selected withMem l.name = true)
    (hc : l.corr = h.corr) : selected withMem h.name = true := by
  have host : ∀ r ∈ rows, r.stream = -1 → r ∈ rows.filter fun r => r.stream == -1 :=
    fun r hr hs => List.mem_filter.mpr ⟨hr, beq_iff_eq.mpr hs⟩
  rw [← nodup_map_inj wf.hostNodup (host l hl (wf.launchesOnHost l hl hsel)) (host h hh hs) hc]
  exact hsel

theorem mem_run {withMem : Bool} {rows : List Row} (wf : WF withMem rows) {o : Out} :
    o ∈ run withMem rows ↔ ∃ h d, IsPair withMem rows h d ∧ o = mkOut h d := by
  simp only [run, IsPair, List.mem_flatMap, List.mem_map, List.mem_filter, Bool.and_eq_true, beq_iff_eq,
    bne_iff_ne, List.contains_iff_mem]
  constructor
  · rintro ⟨h, ⟨hh, hs, l, ⟨hl, hsel⟩, hc⟩, d, ⟨⟨hd, hds, _⟩, hdc⟩, rfl⟩
    exact ⟨h, d, ⟨hh, hd, hs, hds, hdc, wf.selected_of_corr hh hs hl hsel hc⟩, rfl⟩
  · rintro ⟨h, d, ⟨hh, hd, hs, hds, hdc, hsel⟩, rfl⟩
    exact ⟨h, ⟨hh, hs, h, ⟨hh, hsel⟩, rfl⟩, d, ⟨⟨hd, hds, h, ⟨hh, hsel⟩, hdc.symm⟩, hdc⟩, rfl⟩

theorem C15_rows_exact (withMem : Bool) (rows : List Row) (wf : WF withMem rows) :
    Holds withMem rows (run withMem rows) :=
  ⟨fun h d hp => (mem_run wf).mpr ⟨h, d, hp, rfl⟩, fun _ ho => (mem_run wf).mp ho,
    nodup_map_join (((filter_and_sublist ..).map _).nodup wf.hostNodup) (((filter_and_sublist ..).map _).nodup wf.devNodup)
      fun _ _ => rfl⟩

/-- A trace with one kernel launch and one memcpy launch: one row per pair. -/
example :
    run true [⟨0, 0, 5, 1, 1, -1, -1, -1, -1, "aten::add", "cpu_op"⟩,
              ⟨1, 1, 2, 1, 1, -1, 7, 3, -1, "cudaLaunchKernel", "cuda_runtime"⟩,
              ⟨2, 3, 1, 1, 1, -1, 8, 4, -1, "cudaMemcpyAsync", "cuda_runtime"⟩,
              ⟨3, 2, 9, 0, 7, 7, 7, 1, -1, "k", "kernel"⟩,
              ⟨4, 20, 4, 0, 7, 7, 8, 2, -1, "Memcpy DtoH", "gpu_memcpy"⟩]
      = [⟨7, 2, 9, 0⟩, ⟨8, 1, 4, 16⟩] := by decide +kernel

end Hta.C15
