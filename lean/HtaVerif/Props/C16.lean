import HtaVerif.Model.C16
import HtaVerif.Proofs.ListLemmas
/-!
# C16 — frequent kernel sequences count exactly the kernels launched under each operator
-/
namespace Hta.C16
open Hta.C13

theorem mem_distinctP {l : List (List String)} {p : List String} : p ∈ distinctP l ↔ p ∈ l := by
  induction l with
  | nil => exact Iff.rfl
  | cons a l ih =>
    simp only [distinctP, List.mem_cons, List.mem_filter, ih]
    by_cases h : p = a <;> simp [h]

theorem distinctP_nodup (l : List (List String)) : (distinctP l).Nodup := by
  induction l with
  | nil => exact List.nodup_nil
  | cons a l ih => exact List.nodup_cons.mpr ⟨by simp [List.mem_filter], ih.filter _⟩

/-- One row per distinct pattern; a pattern's count is its number of occurrences and its CPU
and GPU durations are the sums over its instances. -/
theorem C16_pattern_counts_exact (insts : List Inst) :
    ((table insts).map (·.pattern)).Nodup ∧
    (∀ p, p ∈ (table insts).map (·.pattern) ↔ ∃ i ∈ insts, i.pattern = p) ∧
    ∀ r ∈ table insts,
      r.count = (insts.filter fun i => i.pattern == r.pattern).length ∧
      r.gpuDur = sumBy (·.gpuDur) (insts.filter fun i => i.pattern == r.pattern) ∧
      r.cpuDur = sumBy (·.cpuDur) (insts.filter fun i => i.pattern == r.pattern) := by
  have hnames : (table insts).map (·.pattern) = distinctP (insts.map (·.pattern)) :=
    map_map_of_leftInverse (fun _ => rfl) _
  rw [hnames]
  refine ⟨distinctP_nodup _, fun p => mem_distinctP.trans List.mem_map, fun r hr => ?_⟩
  obtain ⟨p, _, rfl⟩ := List.mem_map.mp hr
  exact ⟨rfl, rfl, rfl⟩

theorem C16_order_desc (t : List PRow) :
    (byCountDesc t).Pairwise (fun a b => a.count ≥ b.count) ∧ (byCountDesc t).Perm t :=
  ⟨pairwise_mergeSort_decide (r := fun a b : PRow => a.count ≥ b.count)
    (fun _ _ _ h1 h2 => Nat.le_trans h2 h1) (fun a b => Nat.le_total b.count a.count) t,
    List.mergeSort_perm _ _⟩

theorem minL_eq_min? (l : List Int) : minL l = l.min? := by
  induction l with
  | nil => rfl
  | cons x xs ih => rw [minL, ih, List.min?_cons]; cases xs.min? <;> rfl

theorem minL_is_min {l : List Int} {m : Int} (h : minL l = some m) : m ∈ l ∧ ∀ x ∈ l, m ≤ x :=
  List.min?_eq_some_iff.mp (minL_eq_min? l ▸ h)

/-- The instances considered are exactly the matching rows at the shallowest depth at which
the name occurs that have at least `min_pattern_len` kernels beneath them. -/
theorem C16_roots_rule (rows : List Row) (nodes : List N) (op : String) (minLen : Int) (r : Row) (d : Int)
    (hd : minL (((rows.filter fun r => containsSub r.name.toList op.toList)).map
      fun r => (attrsOf rows nodes r.idx).depth) = some d) :
    r ∈ roots rows nodes op minLen ↔
      r ∈ rows ∧ containsSub r.name.toList op.toList = true ∧ (attrsOf rows nodes r.idx).depth = d ∧
        (attrsOf rows nodes r.idx).numKernels ≥ minLen := by
  simp only [roots, hd, List.mem_filter, Bool.and_eq_true, beq_iff_eq, decide_eq_true_eq, and_assoc]

theorem C16_kernels_in_start_order (rows : List Row) (nodes : List N) (r : Row) :
    let ds := descendants nodes (nodes.length + 1) r.idx
    let ks := (rows.filter fun k => ds.contains k.idx && k.stream != -1).mergeSort fun a b => decide (a.ts ≤ b.ts)
    ks.Pairwise (fun a b => a.ts ≤ b.ts) ∧ (instOf rows nodes r).pattern = r.name :: ks.map (·.name) :=
  ⟨pairwise_mergeSort_decide (r := fun a b : Row => a.ts ≤ b.ts) (fun _ _ _ => Int.le_trans)
    (fun a b => Int.le_total a.ts b.ts) _, rfl⟩

example : table [⟨["op", "k1", "k2"], 9, 4⟩, ⟨["op", "k1"], 3, 2⟩, ⟨["op", "k1", "k2"], 7, 5⟩]
    = [⟨["op", "k1", "k2"], 2, 16, 9⟩, ⟨["op", "k1"], 1, 3, 2⟩] := by decide +kernel

end Hta.C16
