import HtaVerif.Spec.C02
import HtaVerif.Proofs.ListLemmas
/-!
# C02 — correlation links pair each launch call with its device activity, mutually
-/
namespace Hta.C02

section
variable {rows : List Row} {r p q : Row}

theorem Partner.symm (hr : r ∈ rows) : Partner rows r p → Partner rows p r
  | ⟨_, hc, hne, hs⟩ => ⟨hr, hc.symm, hc ▸ hne, hs.symm⟩

theorem Partner.mem (h : Partner rows r p) : p ∈ rows := h.1

theorem Partner.corr_eq (h : Partner rows r p) : p.corr = r.corr := h.2.1

theorem Partner.corr_ne (h : Partner rows r p) : r.corr ≠ -1 := h.2.2.1

theorem Partner.side (h : Partner rows r p) : devSide p = !devSide r :=
  Bool.eq_not_of_ne h.2.2.2

theorem Partner.unique (wf : WF rows) (hp : Partner rows r p) (hq : Partner rows r q) : p = q :=
  wf.paired p hp.mem q hq.mem (hp.corr_eq.trans hq.corr_eq.symm) (hp.corr_eq ▸ hp.corr_ne)
    (hp.side.trans hq.side.symm)

end

theorem mem_merged {rows : List Row} {a b : Int} :
    (a, b) ∈ merged rows ↔
      ∃ x ∈ rows, ∃ y, Partner rows x y ∧ devSide x = false ∧ a = x.idx ∧ b = y.idx := by
  simp only [merged, cand, Partner, List.mem_flatMap, List.mem_map, List.mem_filter, Prod.mk.injEq,
    Bool.not_eq_true', beq_iff_eq, bne_iff_ne]
  constructor
  · rintro ⟨x, ⟨⟨hx, hxc⟩, hxs⟩, y, ⟨⟨⟨hy, -⟩, hys⟩, hc⟩, rfl, rfl⟩
    exact ⟨x, hx, y, ⟨hy, hc, hxc, by rw [hxs, hys]; nofun⟩, hxs, rfl, rfl⟩
  · rintro ⟨x, hx, y, ⟨hy, hc, hxc, hs⟩, hxs, rfl, rfl⟩
    exact ⟨x, ⟨⟨hx, hxc⟩, hxs⟩, y,
      ⟨⟨⟨hy, hc ▸ hxc⟩, (Bool.eq_not_of_ne hs).trans (congrArg not hxs)⟩, hc⟩, rfl, rfl⟩

theorem linkOf_cases (rows : List Row) (r : Row) :
    (∃ a b, (a, b) ∈ merged rows ∧ (r.idx = b ∧ linkOf rows r = a ∨ r.idx = a ∧ linkOf rows r = b)) ∨
      (∀ a b, (a, b) ∈ merged rows → a ≠ r.idx ∧ b ≠ r.idx) ∧ linkOf rows r = min r.corr 0 := by
  unfold linkOf
  rcases find?_key_cases Prod.snd r.idx (merged rows).reverse with ⟨p, hp, hk, e⟩ | ⟨h₂, e₂⟩
  · rw [e]
    exact .inl ⟨p.1, p.2, List.mem_reverse.mp hp, .inl ⟨hk.symm, rfl⟩⟩
  · rw [e₂]
    rcases find?_key_cases Prod.fst r.idx (merged rows).reverse with ⟨p, hp, hk, e⟩ | ⟨h₁, e₁⟩
    · rw [e]
      exact .inl ⟨p.1, p.2, List.mem_reverse.mp hp, .inr ⟨hk.symm, rfl⟩⟩
    · rw [e₁]
      exact .inr ⟨fun a b hm => ⟨h₁ _ (List.mem_reverse.mpr hm), h₂ _ (List.mem_reverse.mpr hm)⟩, rfl⟩

/-- Without `WF`: a link other than the initial value `min(correlation, 0)` was written by the merge and points to an
opposite-side row with the same correlation id. -/
theorem C02_link_sound_unconditional (rows : List Row) (r : Row)
    (h : linkOf rows r ≠ min r.corr 0) :
    ∃ x ∈ rows, ∃ y ∈ rows, devSide x = false ∧ devSide y = true ∧ y.corr = x.corr ∧ x.corr ≠ -1 ∧
      ((r.idx = y.idx ∧ linkOf rows r = x.idx) ∨ (r.idx = x.idx ∧ linkOf rows r = y.idx)) := by
  rcases linkOf_cases rows r with ⟨a, b, hm, hl⟩ | ⟨-, e⟩
  · obtain ⟨x, hx, y, hxy, hxs, rfl, rfl⟩ := mem_merged.mp hm
    exact ⟨x, hx, y, hxy.mem, hxs, hxy.side.trans (congrArg not hxs), hxy.corr_eq, hxy.corr_ne, hl⟩
  · exact absurd e h

theorem linkOf_eq_partner_or_sentinel {rows : List Row} (hidx : ∀ a ∈ rows, ∀ b ∈ rows, a.idx = b.idx → a = b)
    {r : Row} (hr : r ∈ rows) :
    (∃ q, Partner rows r q ∧ linkOf rows r = q.idx) ∨
      (¬ ∃ q, Partner rows r q) ∧ linkOf rows r = min r.corr 0 := by
  rcases linkOf_cases rows r with ⟨a, b, hm, hl⟩ | ⟨hno, e⟩
  · obtain ⟨x, hx, y, hxy, -, rfl, rfl⟩ := mem_merged.mp hm
    rcases hl with ⟨hi, hl⟩ | ⟨hi, hl⟩
    · obtain rfl := hidx r hr y hxy.mem hi
      exact .inl ⟨x, hxy.symm hx, hl⟩
    · obtain rfl := hidx r hr x hx hi
      exact .inl ⟨y, hxy, hl⟩
  · refine .inr ⟨fun ⟨q, hq⟩ => ?_, e⟩
    cases hd : devSide r with
    | false => exact (hno _ _ (mem_merged.mpr ⟨r, hr, q, hq, hd, rfl, rfl⟩)).1 rfl
    | true =>
      exact (hno _ _ (mem_merged.mpr ⟨q, hq.mem, r, hq.symm hr, hq.side.trans (congrArg not hd), rfl, rfl⟩)).2 rfl

theorem linkOf_eq_of_partner {rows : List Row} (wf : WF rows) {r p : Row} (hr : r ∈ rows)
    (hp : Partner rows r p) : linkOf rows r = p.idx := by
  rcases linkOf_eq_partner_or_sentinel wf.idxInj hr with ⟨q, hq, e⟩ | ⟨hno, -⟩
  · rw [e, hq.unique wf hp]
  · exact absurd ⟨p, hp⟩ hno

/-- Every link is the id of the unique counterpart (mutually) or the sentinel `min(correlation, 0)`. -/
theorem C02_link_spec (rows : List Row) (wf : WF rows) : Holds rows (linkOf rows) := by
  intro r hr
  refine ⟨fun p hp => ⟨linkOf_eq_of_partner wf hr hp, linkOf_eq_of_partner wf hp.mem (hp.symm hr)⟩, fun hno => ?_⟩
  rcases linkOf_eq_partner_or_sentinel wf.idxInj hr with ⟨q, hq, -⟩ | ⟨-, e⟩
  · exact absurd ⟨q, hq⟩ hno
  · exact e

/-- Launch 1 <-> kernel 2, a kernel without launch (0), an operator (-1), a sync
record on stream -1 paired with its host call. -/
example : run [⟨0, 0, 9, 1, 1, -1, -1, -1, -1, "aten::add", "cpu_op"⟩,
               ⟨1, 1, 2, 1, 1, -1, 7, -1, -1, "cudaLaunchKernel", "cuda_runtime"⟩,
               ⟨2, 3, 4, 0, 7, 7, 7, -1, -1, "k", "kernel"⟩,
               ⟨3, 8, 4, 0, 7, 7, 9, -1, -1, "k2", "kernel"⟩,
               ⟨4, 9, 1, 1, 1, -1, 11, -1, -1, "cudaDeviceSynchronize", "cuda_runtime"⟩,
               ⟨5, 9, 1, 0, 0, -1, 11, -1, -1, "Context Sync", "cuda_sync"⟩]
    = [(0, -1), (1, 2), (2, 1), (3, 0), (4, 5), (5, 4)] := by decide +kernel

end Hta.C02
