import HtaVerif.Proofs.Interval
import HtaVerif.Spec.C04
/-!
# C04 — temporal breakdown is an exact partition of the GPU activity span

`K` = the device activities of a rank as `(ts, ts+dur)` intervals, `C` = the computation kernels among them.
The model sorts with `mergeSort`, pandas with an unstable quicksort, so the theorem is stated for every
start-sorted permutation `sK` of `K` and `sC` of `C`. Its hypotheses are the property's quantifier: at least
one device activity (`K ≠ []`) and non-negative durations (`x.1 ≤ x.2`).
-/
namespace Hta.C04

theorem C04_temporal_partition
    (K C sK sC : List Iv)
    (hpK : sK.Perm K) (hpC : sC.Perm C)
    (hsK : SortedByStart sK) (hsC : SortedByStart sC)
    (hne : K ≠ []) (hnn : ∀ x ∈ K, x.1 ≤ x.2) (hsub : ∀ x ∈ C, x ∈ K) :
    ∃ o, temporalSorted sK sC = some o ∧ Holds K C o := by
  have fK := mergeSorted_facts hpK hsK hnn
  have fC := mergeSorted_facts hpC hsC fun x hx => hnn x (hsub x hx)
  obtain ⟨first, last, hhead, hlast, hlo, hhi, hspan⟩ := fK.span hne
  have hle : first.1 ≤ last.2 :=
    let ⟨x, hx, _⟩ := hlo
    Int.le_trans (hspan x hx).1 (Int.le_trans (hnn x hx) (hspan x hx).2)
  -- the window is `[first.1, last.2)`, of length `n`
  obtain ⟨n, hn⟩ := Int.le.dest hle
  have hwin : ∀ x ∈ K, first.1 ≤ x.1 ∧ x.2 ≤ first.1 + n := hn ▸ hspan
  refine ⟨_, by simp only [temporalSorted, hhead, hlast]; rfl, first.1, last.2, ⟨hlo, hhi, hspan⟩, ?_⟩
  simp only [show last.2 - first.1 = n by rw [← hn, Int.add_comm, Int.add_sub_cancel], Int.toNat_natCast,
    fK.sumLen_eq hwin, fC.sumLen_eq fun x hx => hwin x (hsub x hx), true_and]
  -- the window splits into `¬K`, `K ∧ C = C` and `K ∧ ¬C`
  have hnot := cells_not first.1 n (covers K)
  have hsplit := cells_split_by first.1 n (covers K) (covers C)
  have hsubcov : cells first.1 n (fun t => covers K t && covers C t) = cells first.1 n (covers C) :=
    cells_congr fun t _ _ => Bool.and_eq_right_iff_imp.mpr fun hc =>
      let ⟨x, hx, h1⟩ := covers_iff.mp hc
      covers_iff.mpr ⟨x, hsub x hx, h1⟩
  omega

theorem sortIv_sorted (l : List Iv) : SortedByStart (sortIv l) :=
  pairwise_mergeSort_decide (r := fun x y : Iv => x.1 ≤ y.1) (fun _ _ _ => Int.le_trans)
    (fun _ _ => Int.le_total _ _) l

/-- The same statement for the executable model `run` (one particular sort). -/
theorem C04_run (classify : String → KType) (rows : List Row)
    (hne : deviceRows rows ≠ []) (hnn : ∀ r ∈ rows, 0 ≤ r.dur) :
    ∃ o, run classify rows = some o ∧
      Holds ((deviceRows rows).map Row.iv)
        (((deviceRows rows).filter fun r => classify r.name == .computation).map Row.iv) o :=
  C04_temporal_partition _ _ _ _ (List.mergeSort_perm _ _) (List.mergeSort_perm _ _) (sortIv_sorted _)
    (sortIv_sorted _) (mt List.map_eq_nil_iff.mp hne)
    (List.forall_mem_map.mpr fun r hr => Int.le_add_of_nonneg_right (hnn r (List.mem_filter.mp hr).1))
    (List.forall_mem_map.mpr fun _ hr => List.mem_map_of_mem (List.mem_filter.mp hr).1)

/-- The model's numbers on a concrete sorted trace with overlapping, touching, identical and
zero-length activities: span `[0, 25)`, union of all 14, of the two computation kernels 9. -/
example :
    temporalSorted [(0, 4), (0, 4), (2, 6), (4, 4), (5, 9), (20, 25)] [(2, 6), (20, 25)]
      = some { idle := 11, compute := 9, nonCompute := 5, kernelTime := 25 } := by decide

end Hta.C04
