import HtaVerif.Model.C17
import HtaVerif.Proofs.C05
/-!
# C17 — trace diff counts and durations are exact; change classes partition the names
-/
namespace Hta.C17

/-- One row per name occurring in either trace, and no other rows. -/
theorem C17_rows_are_names (control test : List (String × Int)) :
    ((compare control test).map (·.name)).Nodup ∧
    ∀ n, n ∈ (compare control test).map (·.name) ↔ (n ∈ control.map (·.1) ∨ n ∈ test.map (·.1)) := by
  have hnames : (compare control test).map (·.name) = C05.distinct ((control ++ test).map (·.1)) :=
    map_map_of_leftInverse (fun _ => rfl) _
  rw [hnames]
  refine ⟨C05.distinct_nodup _, fun n => ?_⟩
  rw [C05.mem_distinct, List.map_append, List.mem_append]

/-- Counts and total durations are those of the matching events of each trace; differences
are test minus control. -/
theorem C17_row_values (control test : List (String × Int)) (r : DiffRow) (hr : r ∈ compare control test) :
    r.controlCount = (control.filter fun e => e.1 == r.name).length ∧
    r.testCount = (test.filter fun e => e.1 == r.name).length ∧
    r.controlDur = C05.sumL ((control.filter fun e => e.1 == r.name).map (·.2)) ∧
    r.testDur = C05.sumL ((test.filter fun e => e.1 == r.name).map (·.2)) ∧
    r.diffCount = (r.testCount : Int) - (r.controlCount : Int) ∧
    r.diffDur = r.testDur - r.controlDur := by
  obtain ⟨n, _, rfl⟩ := List.mem_map.mp hr
  exact ⟨List.length_map .., List.length_map .., rfl, rfl, rfl, rfl⟩

/-- The row's name occurs in `control ++ test`. -/
theorem row_count_pos (control test : List (String × Int)) (r : DiffRow) (hr : r ∈ compare control test) :
    r.controlCount + r.testCount > 0 := by
  obtain ⟨n, hn, rfl⟩ := List.mem_map.mp hr
  obtain ⟨e, he, rfl⟩ := List.mem_map.mp (C05.mem_distinct.mp hn)
  show 0 < (C05.dursOf control e.1).length + (C05.dursOf test e.1).length
  rw [C05.dursOf, C05.dursOf, List.length_map, List.length_map, ← List.length_append, ← List.filter_append]
  exact List.length_pos_of_mem (List.mem_filter.mpr ⟨he, beq_self_eq_true e.1⟩)

/-! The five selections of `ops_diff` as conditions on the counts. -/

theorem isAdded_iff {r : DiffRow} : isAdded r = true ↔ r.controlCount = 0 ∧ 0 < r.testCount := by
  simp [isAdded]

theorem isDeleted_iff {r : DiffRow} : isDeleted r = true ↔ 0 < r.controlCount ∧ r.testCount = 0 := by
  simp [isDeleted]

theorem isIncreased_iff {r : DiffRow} : isIncreased r = true ↔ 0 < r.controlCount ∧ 0 < r.diffCount := by
  simp [isIncreased]

theorem isDecreased_iff {r : DiffRow} : isDecreased r = true ↔ 0 < r.testCount ∧ r.diffCount < 0 := by
  simp [isDecreased]

theorem isUnchanged_iff {r : DiffRow} : isUnchanged r = true ↔ 0 < r.testCount ∧ r.diffCount = 0 := by
  simp [isUnchanged]

theorem classes_of_counts (r : DiffRow) (hd : r.diffCount = (r.testCount : Int) - (r.controlCount : Int))
    (hpos : r.controlCount + r.testCount > 0) :
    ([isAdded r, isDeleted r, isIncreased r, isDecreased r, isUnchanged r].filter id).length = 1 := by
  simp only [← List.countP_eq_length_filter, List.countP_cons, List.countP_nil, id, isAdded_iff, isDeleted_iff,
    isIncreased_iff, isDecreased_iff, isUnchanged_iff]
  generalize r.controlCount = c, r.testCount = t, r.diffCount = d at *
  rcases Nat.eq_zero_or_pos c with rfl | hc
  · -- no control event: added, and nothing else since the difference is positive
    have ht : 0 < t := Nat.zero_add t ▸ hpos
    have h : 0 < d := hd ▸ Int.sub_pos_of_lt (Int.ofNat_lt.mpr ht)
    simp only [ht, h, Int.ne_of_gt h, Int.lt_asymm h, Nat.lt_irrefl, false_and, and_false, and_true, if_true,
      if_false]
  rcases Nat.eq_zero_or_pos t with rfl | ht
  · -- no test event: deleted, and nothing else since the difference is negative
    have h : d < 0 := hd ▸ Int.sub_neg_of_lt (Int.ofNat_lt.mpr hc)
    simp only [hc, h, Int.ne_of_lt h, Int.lt_asymm h, Nat.lt_irrefl, and_false, and_true, if_true, if_false]
  · -- events on both sides: increased, decreased or unchanged by the sign of the difference
    simp only [hc, ht, Nat.ne_of_gt hc, Nat.ne_of_gt ht, true_and, false_and, and_false, if_false]
    rcases Int.lt_trichotomy d 0 with h | h | h
    · simp only [h, Int.lt_asymm h, Int.ne_of_lt h, if_true, if_false]
    · simp only [h, Int.lt_irrefl, if_true, if_false]
    · simp only [h, Int.lt_asymm h, Int.ne_of_gt h, if_true, if_false]

/-- The five change classes are pairwise disjoint and together contain every name. -/
theorem C17_classes_partition (control test : List (String × Int)) (r : DiffRow)
    (hr : r ∈ compare control test) :
    ([isAdded r, isDeleted r, isIncreased r, isDecreased r, isUnchanged r].filter id).length = 1 := by
  obtain ⟨-, -, -, -, hd, -⟩ := C17_row_values control test r hr
  exact classes_of_counts r hd (row_count_pos control test r hr)

theorem C17_self_diff (evs : List (String × Int)) (r : DiffRow) (hr : r ∈ compare evs evs) :
    isUnchanged r = true ∧ r.diffCount = 0 ∧ r.diffDur = 0 ∧
    isAdded r = false ∧ isDeleted r = false ∧ isIncreased r = false ∧ isDecreased r = false := by
  have hpos := row_count_pos evs evs r hr
  obtain ⟨n, _, rfl⟩ := List.mem_map.mp hr
  have hc : (mkRow evs evs n).controlCount = (mkRow evs evs n).testCount := rfl
  have hd : (mkRow evs evs n).diffCount = 0 := Int.sub_self _
  have hdur : (mkRow evs evs n).diffDur = 0 := Int.sub_self _
  generalize mkRow evs evs n = r at *
  have ht : 0 < r.testCount := by omega
  simp only [← Bool.not_eq_true, isAdded_iff, isDeleted_iff, isIncreased_iff, isDecreased_iff, isUnchanged_iff,
    hc, hd, hdur, ht, Nat.ne_of_gt ht, Int.lt_irrefl, and_self, and_false, false_and, not_false_eq_true]

/-- Selection is a pure filter: exactly the rows of the requested iterations and device side. -/
theorem C17_extract_exact (iterations : List Int) (dev : Device) (rows : List Row) (r : Row) :
    r ∈ extractOps iterations dev rows ↔
      r ∈ rows ∧ r.iter ∈ iterations ∧
        (match dev with | .cpu => r.stream = -1 | .gpu => r.stream ≠ -1 | .all => True) := by
  simp only [extractOps, List.mem_filter, List.contains_iff_mem, and_assoc]
  cases dev <;> simp

/-- For evaluating `shortenName` on character lists: the kernel is slow at packing and unpacking string literals
(`String.toList`, `String.ofList`), not at the stack loop. -/
theorem shortenName_ofList (cs : List Char) :
    shortenName (String.ofList cs) = String.ofList
      (if "Memcpy".toList.isPrefixOf cs || "Memset".toList.isPrefixOf cs || "dma".toList.isPrefixOf cs then cs
       else if !cs.contains '<' && !cs.contains '(' then cs
       else lastWord (shortenGo [] (removeArrow cs)).reverse) := by
  simp only [shortenName, isMemoryKernel, String.toList_ofList, apply_ite String.ofList]

example : shortenName "void at::native::vectorized_elementwise_kernel<4, at::native::AddFunctor<float> >(int, float)"
    = "at::native::vectorized_elementwise_kernel" :=
  (shortenName_ofList _).trans (congrArg String.ofList (by decide +kernel))
example : shortenName "Memcpy DtoH (Device -> Pageable)" = "Memcpy DtoH (Device -> Pageable)" :=
  (shortenName_ofList _).trans (congrArg String.ofList (by decide +kernel))
example : (compare [("a", 3), ("a", 4), ("b", 1)] [("a", 5), ("c", 2)]).map
    (fun r => (r.name, r.controlCount, r.testCount, r.diffCount, r.diffDur))
    = [("a", 2, 1, -1, -2), ("b", 1, 0, -1, -1), ("c", 0, 1, 1, 2)] := by decide +kernel

end Hta.C17
