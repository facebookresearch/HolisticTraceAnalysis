import HtaVerif.Model.C12
import HtaVerif.Proofs.ListLemmas
/-!
# C12 — iteration numbers follow profiler steps; loading trims only the trailing step
-/
namespace Hta.C12

theorem iterHost_eq (steps : List Step) (t : Int) :
    iterHost steps t = (((steps.filter (·.contains t)).getLast?).map (·.num)).getD (-1) :=
  foldl_ite_eq_getLast? (·.contains t) (·.num) steps (-1)

theorem C12_iter_host_outside (steps : List Step) (t : Int)
    (h : ∀ s ∈ steps, s.contains t = false) : iterHost steps t = -1 := by
  rw [iterHost_eq, List.filter_eq_nil_iff.mpr fun s hs => ne_true_of_eq_false (h s hs)]
  rfl

/-- A host event whose start lies in the half-open span of a profiler step gets that step's number, provided the
steps containing the instant agree on the number; pairwise disjoint spans give that (`disjoint_steps_unique`). -/
theorem C12_iter_host_inside (steps : List Step) (t : Int) (s : Step) (hs : s ∈ steps)
    (hc : s.contains t = true)
    (huniq : ∀ s' ∈ steps, s'.contains t = true → s'.num = s.num) :
    iterHost steps t = s.num := by
  have hne : steps.filter (·.contains t) ≠ [] := List.ne_nil_of_mem (List.mem_filter.mpr ⟨hs, hc⟩)
  rw [iterHost_eq, List.getLast?_eq_some_getLast hne]
  have hm := List.mem_filter.mp (List.getLast_mem hne)
  exact huniq _ hm.1 hm.2

theorem disjoint_steps_unique (steps : List Step)
    (hd : steps.Pairwise fun a b => a.ts + a.dur ≤ b.ts ∨ b.ts + b.dur ≤ a.ts)
    (t : Int) (s s' : Step) (hs : s ∈ steps) (hs' : s' ∈ steps)
    (hc : s.contains t = true) (hc' : s'.contains t = true) : s' = s := by
  rcases pairwise_symm_mem (fun _ _ => Or.symm) hd hs' hs with h | h
  · exact h
  · simp only [Step.contains, Bool.and_eq_true, decide_eq_true_eq] at hc hc'
    omega

theorem iterOf_device {rows : List Row} {steps : List Step} {r : Row} (hr : r.stream > 0) :
    iterOf rows steps r =
      if r.link > 0 then
        match rows.find? (fun h => h.idx == r.link) with
        | some h => if h.stream < 0 then iterHost steps h.ts else -1
        | none => -1
      else -1 :=
  (if_neg (Int.lt_asymm hr)).trans (if_pos hr)

/-- A device activity inherits the iteration of the host call linked to it. -/
theorem C12_iter_device (rows : List Row) (steps : List Step) (r h : Row)
    (hidx : ∀ a ∈ rows, ∀ b ∈ rows, a.idx = b.idx → a = b)
    (hr : r.stream > 0) (hl : r.link > 0) (hh : h ∈ rows) (hhi : h.idx = r.link) (hhs : h.stream < 0) :
    iterOf rows steps r = iterHost steps h.ts := by
  rw [iterOf_device hr, if_pos hl]
  rcases find?_key_cases Row.idx r.link rows with ⟨x, hx, hk, hf⟩ | ⟨hno, _⟩
  · rw [hf, hidx x hx h hh (hk.trans hhi.symm)]
    exact if_pos hhs
  · exact absurd hhi (hno h hh)

theorem C12_iter_device_unlinked (rows : List Row) (steps : List Step) (r : Row)
    (hr : r.stream > 0) (hl : ¬ r.link > 0) : iterOf rows steps r = -1 := by
  rw [iterOf_device hr, if_neg hl]

theorem maxL_eq_max? (l : List Int) : maxL l = l.max? := by
  induction l with
  | nil => rfl
  | cons x xs ih => rw [maxL, ih, List.max?_cons]; cases xs.max? <;> rfl

theorem maxL_spec {l : List Int} {m : Int} (h : maxL l = some m) : m ∈ l ∧ ∀ x ∈ l, x ≤ m :=
  List.max?_eq_some_iff.mp (maxL_eq_max? l ▸ h)

theorem keptHost_eq_nil {includeLast : Bool} {rows : List Row}
    (h : ((rows.filter fun r => !C02.devSide r).filter fun r => hasStep r.name) = []) :
    keptHost includeLast rows = [] := by
  simp only [keptHost, h, List.map_nil, maxL]

theorem keptHost_sublist (includeLast : Bool) (rows : List Row) :
    (keptHost includeLast rows).Sublist (rows.filter fun r => !C02.devSide r) := by
  simp only [keptHost]
  split
  · exact List.filter_sublist
  · exact List.nil_sublist _

/-- Trimming a rank keeps exactly the kept host events (`C12_kept_host_rule`) and the device activities whose
correlation id is that of a kept host event. -/
theorem C12_trim_keeps_exactly (includeLast : Bool) (rows : List Row) (r : Row) :
    r ∈ trimRank includeLast rows ↔
      (r ∈ keptHost includeLast rows) ∨
      (r ∈ rows ∧ C02.devSide r = true ∧ r.corr ≠ -1 ∧ ∃ h ∈ keptHost includeLast rows, h.corr = r.corr) := by
  simp only [trimRank, List.mem_append, List.mem_filter, Bool.and_eq_true, List.any_eq_true, bne_iff_ne, ne_eq,
    beq_iff_eq, and_assoc]
  exact Or.comm

/-- The kept host events are the host-side rows that start before the last profiler step begins (the latest start
among the profiler-step rows), or no later than the latest end among them when the last step is to be included. -/
theorem C12_kept_host_rule (includeLast : Bool) (rows : List Row) (r : Row)
    (lastStart lastEnd : Int)
    (hs : maxL (((rows.filter fun r => !C02.devSide r).filter fun r => hasStep r.name).map (·.ts)) = some lastStart)
    (he : maxL (((rows.filter fun r => !C02.devSide r).filter fun r => hasStep r.name).map Row.fin) = some lastEnd) :
    r ∈ keptHost includeLast rows ↔
      r ∈ rows ∧ C02.devSide r = false ∧ (if includeLast then r.ts ≤ lastEnd else r.ts < lastStart) := by
  simp only [keptHost, hs, he, List.mem_filter, keepPred, Bool.not_eq_true', and_assoc]
  split <;> rw [decide_eq_true_eq]

/-- A rank without any profiler-step row loses every event when trimming is active; what the trimming is meant
to keep is therefore claimed only for traces in which every rank carries the profiler steps. -/
theorem C12_trim_no_steps (includeLast : Bool) (rows : List Row)
    (h : ((rows.filter fun r => !C02.devSide r).filter fun r => hasStep r.name) = []) :
    trimRank includeLast rows = [] := by
  simp [trimRank, keptHost_eq_nil h]

/-- With fewer than two distinct profiler-step symbols in the trace, loading drops nothing. -/
theorem C12_trim_noop_lt2 (includeLast : Bool) (n : Nat) (hn : n < 2) (ranks : List (List Row)) :
    load includeLast n ranks = ranks :=
  if_neg (Nat.not_le.mpr hn)

theorem trimRank_sublist (includeLast : Bool) (rows : List Row) :
    (trimRank includeLast rows).Sublist (rows.filter C02.devSide ++ rows.filter fun r => !C02.devSide r) :=
  List.filter_sublist.append (keptHost_sublist includeLast rows)

/-- No event is duplicated by trimming: unique rows stay unique, whatever the correlation ids are
(two host calls sharing an id, device-side records without one). -/
theorem C12_trim_nodup (includeLast : Bool) (rows : List Row) (hnd : rows.Nodup) :
    (trimRank includeLast rows).Nodup :=
  (trimRank_sublist includeLast rows).nodup ((List.filter_append_perm C02.devSide rows).nodup_iff.mpr hnd)

/-- Two steps; the launch in step 1 and its kernel survive, the operator that
starts at the beginning of the last step and the partner-less kernel are dropped. -/
example : (trimRank false
    [⟨0, 0, 10, 1, 1, -1, -1, -1, 1, "ProfilerStep#1", "user_annotation"⟩,
     ⟨1, 2, 2, 1, 1, -1, 7, 3, 1, "cudaLaunchKernel", "cuda_runtime"⟩,
     ⟨2, 10, 5, 1, 1, -1, -1, -1, 2, "ProfilerStep#2", "user_annotation"⟩,
     ⟨3, 12, 9, 0, 7, 7, 7, 1, 1, "k", "kernel"⟩,
     ⟨4, 10, 1, 1, 1, -1, -1, -1, 2, "aten::add", "cpu_op"⟩,
     ⟨5, 30, 9, 0, 7, 7, 9, 0, -1, "k2", "kernel"⟩]).map (·.idx) = [3, 0, 1] := by decide +kernel

example : stepIter "ProfilerStep#15" = some 15 ∧ stepIter "ProfilerStep # 7x" = some 7
    ∧ stepIter "ProfilerStepX" = none := by decide +kernel

end Hta.C12
