/-! Facts about lists that core Lean lacks. -/
namespace Hta

/-! ### `Pairwise`, `Nodup`, `map`, `filter` -/

theorem pairwise_symm_mem {α : Type} {R : α → α → Prop} {l : List α} (hsymm : ∀ a b, R a b → R b a)
    (h : l.Pairwise R) {a b : α} (ha : a ∈ l) (hb : b ∈ l) : a = b ∨ R a b :=
  List.Pairwise.forall_of_forall_of_flip (R := fun a b => a = b ∨ R a b) (fun _ _ => .inl rfl)
    (h.imp .inr) (h.imp fun h => .inr (hsymm _ _ h)) ha hb

theorem nodup_of_pairwise {α : Type} {R : α → α → Prop} {l : List α} (h : l.Pairwise R)
    (irrefl : ∀ a, ¬ R a a) : l.Nodup :=
  h.imp fun {a b} (hab : R a b) (e : a = b) => irrefl b (e ▸ hab)

theorem nodup_map_inj {α β : Type} {f : α → β} {l : List α} (h : (l.map f).Nodup)
    {a b : α} (ha : a ∈ l) (hb : b ∈ l) (hab : f a = f b) : a = b :=
  (pairwise_symm_mem (fun _ _ => Ne.symm) (List.pairwise_map.mp h) ha hb).resolve_right (absurd hab)

/-- The `flatMap` is the inner join of `A` and `B` on their keys, written as in `C15.run` (pandas `merge`). -/
theorem nodup_map_join {α β γ κ : Type} [BEq κ] [LawfulBEq κ] {ka : α → κ} {kb : β → κ} {k : γ → κ}
    {g : α → β → γ} {A : List α} {B : List β} (hA : (A.map ka).Nodup) (hB : (B.map kb).Nodup)
    (hk : ∀ a b, k (g a b) = ka a) :
    ((A.flatMap fun a => (B.filter fun b => kb b == ka a).map (g a)).map k).Nodup := by
  simp only [List.map_flatMap, List.map_map, Function.comp_def, hk]
  refine List.pairwise_flatMap.mpr ⟨fun a _ => ?_, (List.pairwise_map.mp hA).imp fun hab => ?_⟩
  · rw [← List.map_congr_left (f := kb) fun b hb => eq_of_beq (List.mem_filter.mp hb).2]
    exact (List.filter_sublist.map kb).nodup hB
  · simp only [List.forall_mem_map]
    exact fun _ _ _ _ => hab

theorem length_le_one_of_all_eq {α : Type} {l : List α} (hnd : l.Nodup)
    (h : ∀ a ∈ l, ∀ b ∈ l, a = b) : l.length ≤ 1 := by
  cases l with
  | nil => exact Nat.zero_le 1
  | cons a t =>
    cases t with
    | nil => exact Nat.le_refl 1
    | cons b t' =>
      exact absurd (h a List.mem_cons_self b (List.mem_cons_of_mem _ List.mem_cons_self))
        (List.rel_of_pairwise_cons hnd List.mem_cons_self)

theorem pairwise_of_length_le_one {α : Type} {R : α → α → Prop} {l : List α} (h : l.length ≤ 1) :
    l.Pairwise R :=
  List.pairwise_of_forall_sublist fun hab => absurd (Nat.le_trans hab.length_le h) (Nat.not_succ_le_self 1)

theorem map_map_of_leftInverse {α β : Type} {f : α → β} {g : β → α} (h : ∀ a, g (f a) = a) (l : List α) :
    (l.map f).map g = l :=
  List.map_map.trans (List.map_id'' h l)

theorem filter_and_sublist {α : Type} (p q : α → Bool) (l : List α) :
    (l.filter fun a => p a && q a).Sublist (l.filter p) := by
  rw [← List.filter_filter]
  exact List.filter_sublist.filter p

/-! ### membership -/

theorem mem_ite_cases {α : Type} {c : Prop} [Decidable c] {a : α} {l1 l2 : List α}
    (h : a ∈ if c then l1 else l2) : (c ∧ a ∈ l1) ∨ (¬ c ∧ a ∈ l2) := by
  split at h
  · exact .inl ⟨‹c›, h⟩
  · exact .inr ⟨‹¬ c›, h⟩

theorem forall_exists_mem_cons {α : Type} {p : α → α → Prop} {l₁ l₂ : List α} (c : α) (hc : p c c)
    (h : ∀ y ∈ l₁, ∃ x ∈ l₂, p x y) : ∀ y ∈ c :: l₁, ∃ x ∈ c :: l₂, p x y :=
  List.forall_mem_cons.mpr ⟨⟨c, List.mem_cons_self, hc⟩, fun y hy =>
    let ⟨x, hx, e⟩ := h y hy
    ⟨x, List.mem_cons_of_mem _ hx, e⟩⟩

/-! ### sorted lists and `mergeSort` -/

/-- In a list sorted by an asymmetric `lt`, what is below `t` stands before `t` and what is above `t` after it. -/
theorem mem_split_of_pairwise {α : Type} {lt : α → α → Prop} (asymm : ∀ a b, lt a b → ¬ lt b a)
    {l P Q : List α} {t x : α} (hs : l.Pairwise lt) (hsplit : l = P ++ t :: Q) (hx : x ∈ l) :
    (lt x t → x ∈ P) ∧ (lt t x → x ∈ Q) := by
  subst hsplit
  rcases List.mem_append.mp hx with h | h
  · exact ⟨fun _ => h, (asymm _ _ (hs.rel_of_mem_append h List.mem_cons_self)).elim⟩
  · rcases List.mem_cons.mp h with rfl | h
    · exact ⟨fun h => (asymm _ _ h h).elim, fun h => (asymm _ _ h h).elim⟩
    · exact ⟨(asymm _ _ (List.rel_of_pairwise_cons (List.pairwise_append.mp hs).2.1 h)).elim, fun _ => h⟩

/-- In a list sorted downwards the tail is the list without its largest element. -/
theorem mem_tail_iff_of_max {α : Type} {lt : α → α → Prop} {l : List α} {a x : α}
    (hs : l.Pairwise fun x y => lt y x) (irrefl : ∀ a, ¬ lt a a) (ha : a ∈ l) (hmax : ∀ b ∈ l, ¬ lt a b) :
    x ∈ l.tail ↔ x ∈ l ∧ x ≠ a := by
  cases l with
  | nil => cases ha
  | cons h r =>
    obtain rfl : a = h := (List.mem_cons.mp ha).resolve_right fun hin =>
      hmax h List.mem_cons_self (List.rel_of_pairwise_cons hs hin)
    exact ⟨fun hx => ⟨List.mem_cons_of_mem a hx, fun e => irrefl a (e ▸ List.rel_of_pairwise_cons hs hx)⟩,
      fun hx => (List.mem_cons.mp hx.1).resolve_left hx.2⟩

theorem rel_getLast_of_pairwise {α : Type} {R : α → α → Prop} {l : List α} (h : l.Pairwise R)
    (hne : l ≠ []) (y : α) (hy : y ∈ l) : y = l.getLast hne ∨ R y (l.getLast hne) := by
  rw [← List.dropLast_concat_getLast hne] at h hy
  exact (List.mem_append.mp hy).symm.imp List.mem_singleton.mp fun hy =>
    h.rel_of_mem_append hy (List.mem_singleton_self _)

/-- Stated for the `Bool` test `fun a b => decide (r a b)` that the model files pass to `mergeSort`. -/
theorem pairwise_mergeSort_decide {α : Type} {r : α → α → Prop} [DecidableRel r]
    (htrans : ∀ a b c, r a b → r b c → r a c) (htotal : ∀ a b, r a b ∨ r b a) (l : List α) :
    (l.mergeSort fun a b => decide (r a b)).Pairwise r :=
  (List.pairwise_mergeSort (le := fun a b => decide (r a b))
    (fun a b c h₁ h₂ => decide_eq_true (htrans a b c (of_decide_eq_true h₁) (of_decide_eq_true h₂)))
    (fun a b => (Bool.or_eq_true ..).mpr ((htotal a b).imp decide_eq_true decide_eq_true)) l).imp of_decide_eq_true

theorem pairwise_mergeSort_of_strict {α : Type} {lt : α → α → Prop} [∀ a b, Decidable (lt a b)]
    (asymm : ∀ a b, lt a b → ¬ lt b a) (negtrans : ∀ a b c, ¬ lt b a → ¬ lt c b → ¬ lt c a)
    {l : List α} (hnd : l.Nodup) (htot : ∀ a ∈ l, ∀ b ∈ l, a ≠ b → lt a b ∨ lt b a) :
    (l.mergeSort fun a b => !decide (lt b a)).Pairwise lt := by
  simp only [← decide_not]
  have hperm := List.mergeSort_perm l fun a b => decide (¬ lt b a)
  -- sorted by "not greater"; distinct elements of `l` are comparable, so "not greater" is "less"
  have hpw := pairwise_mergeSort_decide (r := fun a b => ¬ lt b a) negtrans
    (fun a b => Decidable.not_and_iff_not_or_not.mp fun h => asymm b a h.1 h.2) l
  exact (hpw.and (hperm.nodup_iff.mpr hnd)).imp_of_mem fun ha hb ⟨hle, hne⟩ =>
    (htot _ (hperm.mem_iff.mp ha) _ (hperm.mem_iff.mp hb) hne).resolve_right hle

/-! ### minimum, maximum, sums, folds -/

theorem foldl_max_spec (l : List Int) (a : Int) :
    l.foldl max a ∈ a :: l ∧ ∀ b ∈ a :: l, b ≤ l.foldl max a :=
  List.max?_eq_some_iff.mp List.max?_cons'

theorem min?_map_of_ne_nil {α β : Type} [Min β] [LE β] [Std.IsLinearOrder β] [Std.LawfulOrderMin β]
    (f : α → β) {l : List α} (hne : l ≠ []) :
    ∃ m, (l.map f).min? = some m ∧ (∀ x ∈ l, m ≤ f x) ∧ ∃ x ∈ l, f x = m :=
  have hne' := mt List.map_eq_nil_iff.mp hne
  ⟨_, List.min?_eq_some_min hne', fun _ hx => List.min_le_of_mem (List.mem_map_of_mem hx),
    List.mem_map.mp (List.min_mem hne')⟩

theorem max?_map_of_ne_nil {α β : Type} [Max β] [LE β] [Std.IsLinearOrder β] [Std.LawfulOrderMax β]
    (f : α → β) {l : List α} (hne : l ≠ []) :
    ∃ m, (l.map f).max? = some m ∧ (∀ x ∈ l, f x ≤ m) ∧ ∃ x ∈ l, f x = m :=
  have hne' := mt List.map_eq_nil_iff.mp hne
  ⟨_, List.max?_eq_some_max hne', fun _ hx => List.le_max_of_mem (List.mem_map_of_mem hx),
    List.mem_map.mp (List.max_mem hne')⟩

theorem sum_perm {l₁ l₂ : List Int} (h : l₁.Perm l₂) : l₁.sum = l₂.sum :=
  h.foldr_eq' (f := (· + ·)) (fun _ _ _ _ _ => Int.add_left_comm ..) 0

theorem foldl_ite_eq_getLast? {α β : Type} (p : α → Bool) (f : α → β) (l : List α) (b : β) :
    l.foldl (fun acc a => if p a then f a else acc) b = (((l.filter p).getLast?).map f).getD b := by
  -- only the elements satisfying `p` matter, and of those the last one wins
  rw [← List.foldl_filter (f := fun _ a => f a), List.foldl_eq_foldr_reverse, List.getLast?_eq_head?_reverse]
  cases (l.filter p).reverse <;> rfl

/-! ### positions -/

theorem getElem?_concat_eq_some {α : Type} {l : List α} {a b : α} {i : Nat} :
    (l ++ [a])[i]? = some b ↔ l[i]? = some b ∨ (i = l.length ∧ a = b) := by
  rw [List.getElem?_append, List.getElem?_singleton]
  by_cases h : i < l.length
  · rw [if_pos h]
    exact ⟨.inl, fun h' => h'.resolve_right fun e => Nat.ne_of_lt h e.1⟩
  · rw [if_neg h, List.getElem?_eq_none (Nat.le_of_not_lt h), Option.ite_none_right_eq_some, Nat.sub_eq_zero_iff_le,
      Option.some.injEq]
    exact ⟨fun e => .inr ⟨Nat.le_antisymm e.1 (Nat.le_of_not_lt h), e.2⟩,
      fun h' => h'.elim (fun h => nomatch h) fun e => ⟨Nat.le_of_eq e.1, e.2⟩⟩

theorem mem_drop_of_getElem? {α : Type} {l : List α} {n j : Nat} {a : α} (hn : n ≤ j)
    (h : l[j]? = some a) : a ∈ l.drop n :=
  List.mem_of_getElem? (i := j - n) (by rw [List.getElem?_drop, Nat.add_sub_cancel' hn]; exact h)

theorem pairwise_snd_zipIdx {α : Type} (l : List α) (n : Nat) :
    (l.zipIdx n).Pairwise fun a b => a.2 < b.2 := by
  rw [← List.pairwise_map (f := Prod.snd) (R := (· < ·)), List.zipIdx_map_snd]
  exact List.pairwise_lt_range'

/-! ### `find?` by a key and after a replacement, `mapM` -/

theorem find?_key_cases {α κ : Type} [BEq κ] [LawfulBEq κ] (key : α → κ) (k : κ) (l : List α) :
    (∃ x ∈ l, key x = k ∧ l.find? (key · == k) = some x) ∨
      (∀ x ∈ l, key x ≠ k) ∧ l.find? (key · == k) = none := by
  cases h : l.find? (key · == k) with
  | some x =>
    have hk := List.find?_some h
    exact .inl ⟨x, List.mem_of_find?_eq_some h, eq_of_beq hk, rfl⟩
  | none => exact .inr ⟨fun x hx e => List.find?_eq_none.mp h x hx (beq_of_eq e), rfl⟩

/-- The update "drop the entries satisfying `p`, append `x`" of `C08.attributeEdge`: a lookup with `p` finds `x` ... -/
theorem find?_replace_same {α : Type} (p : α → Bool) (x : α) (hx : p x = true) (l : List α) :
    ((l.filter fun a => !p a) ++ [x]).find? p = some x := by
  have : (l.filter fun a => !p a).find? p = none :=
    List.find?_eq_none.mpr fun a ha hp => by simp [hp] at ha
  simp [List.find?_append, this, hx]

/-- ... and a lookup with a test `q` disjoint from `p` that rejects `x` is unaffected. -/
theorem find?_replace_other {α : Type} (p q : α → Bool) (x : α) (hq : ∀ a, q a = true → ¬ p a = true)
    (hx : ¬ q x = true) (l : List α) : ((l.filter fun a => !p a) ++ [x]).find? q = l.find? q := by
  have : (fun a => !p a && q a) = q := funext fun a => by
    cases h : q a
    · simp
    · simp [hq a h]
  simp [List.find?_append, List.find?_filter, this, hx]

theorem map_of_mapM_some {α β γ : Type} {f : α → Option β} {g : β → γ} {h : α → γ}
    (hfg : ∀ a b, f a = some b → g b = h a) (l : List α) (out : List β) (hm : l.mapM f = some out) :
    out.map g = l.map h := by
  induction l generalizing out with
  | nil => cases hm; rfl
  | cons a l ih =>
    rw [List.mapM_cons] at hm
    obtain ⟨b, hb, hm⟩ := Option.bind_eq_some_iff.mp hm
    obtain ⟨bs, hbs, hm⟩ := Option.bind_eq_some_iff.mp hm
    cases hm
    rw [List.map_cons, List.map_cons, hfg a b hb, ih bs hbs]

/-! ### one step `a < b ∨ (a = b ∧ R)` of a lexicographic order on `Int` keys; `R`, `S`, `T` compare the tails -/

theorem lex_trans {a b c : Int} {R S T : Prop} (h1 : a < b ∨ (a = b ∧ R)) (h2 : b < c ∨ (b = c ∧ S))
    (h : R → S → T) : a < c ∨ (a = c ∧ T) := by
  rcases h1 with h1 | ⟨rfl, r⟩ <;> rcases h2 with h2 | ⟨rfl, s⟩
  · exact Or.inl (Int.lt_trans h1 h2)
  · exact Or.inl h1
  · exact Or.inl h2
  · exact Or.inr ⟨rfl, h r s⟩

/-- `R`, `S`: the tails compare one way or the other; `E`: the tails are equal. -/
theorem lex_total {a b : Int} {R E S : Prop} (h : R ∨ E ∨ S) :
    (a < b ∨ (a = b ∧ R)) ∨ (a = b ∧ E) ∨ (b < a ∨ (b = a ∧ S)) := by
  rcases Int.lt_trichotomy a b with h1 | rfl | h1
  · exact Or.inl (Or.inl h1)
  · rcases h with r | e | s
    · exact Or.inl (Or.inr ⟨rfl, r⟩)
    · exact Or.inr (Or.inl ⟨rfl, e⟩)
    · exact Or.inr (Or.inr (Or.inr ⟨rfl, s⟩))
  · exact Or.inr (Or.inr (Or.inl h1))

end Hta
