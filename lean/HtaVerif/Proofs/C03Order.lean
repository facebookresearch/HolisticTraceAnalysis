import HtaVerif.Spec.C03
import HtaVerif.Proofs.ListLemmas
namespace Hta.C03

/-! The endpoint key order. `keyLt` is three lexicographic steps `a < b ∨ (a = b ∧ R)` around a final `<`: transitivity
and totality are `lex_trans` / `lex_total` applied three times. On tokens the order is tabulated by shape
(`tokLt_of_time_ne`, `tokLt_zero_pos`, `tokLt_pos_zero`, `tokLt_zero_zero`, `tokLt_pos_pos`); what follows — the order of an
event's tokens, `closes_nested`, `tokEncl_iff`, and the two comparator theorems of C03 — is read off that table. -/

theorem keyLt_irrefl (a : Int × Int × Int × Int) : ¬ keyLt a a := by
  unfold keyLt; omega

theorem keyLt_trans {a b c : Int × Int × Int × Int} (h1 : keyLt a b) (h2 : keyLt b c) : keyLt a c :=
  lex_trans h1 h2 fun h1 h2 => lex_trans h1 h2 fun h1 h2 => lex_trans h1 h2 Int.lt_trans

theorem keyLt_total (a b : Int × Int × Int × Int) : keyLt a b ∨ a = b ∨ keyLt b a :=
  (lex_total (lex_total (lex_total (Int.lt_trichotomy a.2.2.2 b.2.2.2)))).imp_right
    (Or.imp_left fun ⟨h1, h2, h3, h4⟩ => Prod.ext h1 (Prod.ext h2 (Prod.ext h3 h4)))

theorem keyLt_negtrans {a b c : Int × Int × Int × Int} (h1 : ¬ keyLt b a) (h2 : ¬ keyLt c b) : ¬ keyLt c a := fun h3 =>
  (keyLt_total a b).elim (fun hab => h2 (keyLt_trans h3 hab)) fun h => h.elim (fun e => h2 (e ▸ h3)) h1

theorem keyLt_same_time (t a2 a3 a4 b2 b3 b4 : Int) :
    keyLt (t, a2, a3, a4) (t, b2, b3, b4) ↔ a2 < b2 ∨ (a2 = b2 ∧ (a3 < b3 ∨ (a3 = b3 ∧ a4 < b4))) := by
  simp only [keyLt, Int.lt_irrefl, true_and, false_or]

theorem tokLt_irrefl (po : Int → Bool) (x : Tok) : ¬ tokLt po x x := keyLt_irrefl _
theorem tokLt_trans {po : Int → Bool} {x y z : Tok} (h1 : tokLt po x y) (h2 : tokLt po y z) : tokLt po x z :=
  keyLt_trans h1 h2
theorem tokLt_asymm {po : Int → Bool} {x y : Tok} (h : tokLt po x y) : ¬ tokLt po y x :=
  fun h' => keyLt_irrefl _ (keyLt_trans h h')

/-- Holds of every token the builders see; on such tokens `key` is injective (`key_inj`). -/
def TokOk (x : Tok) : Prop := (x.kind = -1 ∨ x.kind = 1) ∧ 0 ≤ x.dur

theorem openTok_ok {e : Ev} (h : 0 ≤ e.dur) : TokOk (openTok e) := ⟨Or.inl rfl, h⟩
theorem closeTok_ok {e : Ev} (h : 0 ≤ e.dur) : TokOk (closeTok e) := ⟨Or.inr rfl, h⟩

theorem key_fst (po : Int → Bool) (t : Tok) : (key po t).1 = t.time := by
  unfold key; cases t.dur == 0 <;> cases t.kind == 1 <;> rfl

theorem key_zero (po : Int → Bool) {t : Tok} (hd : t.dur = 0) :
    key po t = (t.time, if po t.time then 3 else 0, if t.kind = -1 then 0 else 1,
      if t.kind = -1 then t.idx else -t.idx) := by
  simp [key, hd]

theorem key_pos (po : Int → Bool) {t : Tok} (hd : 0 < t.dur) :
    key po t = if t.kind = 1 then (t.time, 1, t.dur, -t.idx) else (t.time, 2, -t.dur, t.idx) := by
  simp [key, Int.ne_of_gt hd]

/-- Left inverse of `key` on `TokOk` tokens, for `key_inj`. -/
def unkey (k : Int × Int × Int × Int) : Tok :=
  if k.2.1 = 1 then ⟨-k.2.2.2, k.2.2.1, 1, k.1⟩
  else if k.2.1 = 2 then ⟨k.2.2.2, -k.2.2.1, -1, k.1⟩
  else if k.2.2.1 = 0 then ⟨k.2.2.2, 0, -1, k.1⟩
  else ⟨-k.2.2.2, 0, 1, k.1⟩

theorem unkey_key (po : Int → Bool) {t : Tok} (h : TokOk t) : unkey (key po t) = t := by
  obtain ⟨i, d, k, tm⟩ := t
  obtain ⟨hk, hd⟩ := h
  simp only at hk hd
  rcases Int.lt_or_eq_of_le hd with hp | rfl
  · rw [key_pos po hp]
    rcases hk with rfl | rfl <;> simp [unkey]
  · rw [key_zero po rfl]
    rcases hk with rfl | rfl <;> cases po tm <;> simp [unkey]

theorem key_inj (po : Int → Bool) {x y : Tok} (hx : TokOk x) (hy : TokOk y)
    (h : key po x = key po y) : x = y := by
  rw [← unkey_key po hx, h, unkey_key po hy]

theorem tokLt_total (po : Int → Bool) {x y : Tok} (hx : TokOk x) (hy : TokOk y) (hne : x ≠ y) :
    tokLt po x y ∨ tokLt po y x :=
  (keyLt_total (key po x) (key po y)).imp_right fun h => h.resolve_left fun e => hne (key_inj po hx hy e)

theorem tokLt_time {po : Int → Bool} {a b : Tok} (h : tokLt po a b) : a.time ≤ b.time := by
  rw [← key_fst po a, ← key_fst po b]
  exact h.elim Int.le_of_lt (fun h => Int.le_of_eq h.1)

theorem tokLt_of_time_ne {po : Int → Bool} {x y : Tok} (h : x.time ≠ y.time) :
    tokLt po x y ↔ x.time < y.time := by
  rw [← key_fst po x, ← key_fst po y] at h ⊢
  exact ⟨fun h' => h'.elim id (fun h'' => absurd h''.1 h), Or.inl⟩

/-- The class decides (`key_zero`, `key_pos`): a zero-duration token has class 0 or 3 as `po` says, a positive close 1, a
positive open 2. -/
theorem tokLt_zero_pos (po : Int → Bool) {x y : Tok} (ht : x.time = y.time) (hx : x.dur = 0) (hy : 0 < y.dur) :
    tokLt po x y ↔ po x.time = false := by
  rw [tokLt, key_zero po hx, key_pos po hy, ht]
  cases po y.time <;> by_cases k : y.kind = 1 <;> simp [keyLt_same_time, k]

theorem tokLt_pos_zero (po : Int → Bool) {x y : Tok} (ht : x.time = y.time) (hx : 0 < x.dur) (hy : y.dur = 0) :
    tokLt po x y ↔ po x.time = true := by
  rw [tokLt, key_zero po hy, key_pos po hx, ht]
  cases po y.time <;> by_cases k : x.kind = 1 <;> simp [keyLt_same_time, k]

theorem tokLt_zero_zero (po : Int → Bool) {x y : Tok} (hx : TokOk x) (hy : TokOk y) (ht : x.time = y.time)
    (hxz : x.dur = 0) (hyz : y.dur = 0) :
    tokLt po x y ↔ x.kind < y.kind ∨ (x.kind = y.kind ∧
      ((x.kind = -1 ∧ x.idx < y.idx) ∨ (x.kind = 1 ∧ y.idx < x.idx))) := by
  rw [tokLt, key_zero po hxz, key_zero po hyz, ht]
  rcases hx.1 with k | k <;> rcases hy.1 with k' | k' <;> simp [k, k', keyLt_same_time]

theorem tokLt_pos_pos (po : Int → Bool) {x y : Tok} (hx : TokOk x) (hy : TokOk y) (ht : x.time = y.time)
    (hxp : 0 < x.dur) (hyp : 0 < y.dur) :
    tokLt po x y ↔ y.kind < x.kind ∨ (x.kind = y.kind ∧
      ((x.kind = -1 ∧ (y.dur < x.dur ∨ (x.dur = y.dur ∧ x.idx < y.idx))) ∨
       (x.kind = 1 ∧ (x.dur < y.dur ∨ (x.dur = y.dur ∧ y.idx < x.idx))))) := by
  rw [tokLt, key_pos po hxp, key_pos po hyp, ht]
  rcases hx.1 with k | k <;> rcases hy.1 with k' | k' <;> simp [k, k', keyLt_same_time] <;> omega

theorem open_lt_close (po : Int → Bool) {e : Ev} (h : 0 ≤ e.dur) : tokLt po (openTok e) (closeTok e) := by
  rcases Int.lt_or_eq_of_le h with hp | hz
  · have l : (openTok e).time < (closeTok e).time := Int.lt_add_of_pos_right e.ts hp
    exact (tokLt_of_time_ne (Int.ne_of_lt l)).mpr l
  · exact (tokLt_zero_zero po (openTok_ok h) (closeTok_ok h) (by rw [closeTok, ← hz, Int.add_zero]; rfl) hz.symm hz.symm).mpr
      (Or.inl (show (-1 : Int) < 1 by decide))

theorem open_lt_open_iff (po : Int → Bool) {a b : Ev} (ha : 0 < a.dur) (hb : 0 < b.dur) :
    tokLt po (openTok a) (openTok b) ↔
      a.ts < b.ts ∨ (a.ts = b.ts ∧ (b.dur < a.dur ∨ (a.dur = b.dur ∧ a.idx < b.idx))) := by
  rw [tokLt, key_pos po (t := openTok a) ha, key_pos po (t := openTok b) hb]
  simp [keyLt, openTok]

theorem close_lt_close_iff (po : Int → Bool) {a b : Ev} (ha : 0 < a.dur) (hb : 0 < b.dur) :
    tokLt po (closeTok a) (closeTok b) ↔
      a.fin < b.fin ∨ (a.fin = b.fin ∧ (a.dur < b.dur ∨ (a.dur = b.dur ∧ b.idx < a.idx))) := by
  rw [tokLt, key_pos po (t := closeTok a) ha, key_pos po (t := closeTok b) hb]
  simp [keyLt, closeTok, Ev.fin]

theorem open_lt_close_iff (po : Int → Bool) {a b : Ev} (ha : 0 < a.dur) (hb : 0 < b.dur) :
    tokLt po (openTok a) (closeTok b) ↔ a.ts < b.fin := by
  rw [tokLt, key_pos po (t := openTok a) ha, key_pos po (t := closeTok b) hb]
  simp [keyLt, openTok, closeTok, Ev.fin]

/-- The two tokens of a zero-duration event share their instant and their class. -/
theorem zero_dur_same_side (po : Int → Bool) {b : Ev} (hb : b.dur = 0) {y : Tok} (hy : 0 < y.dur) :
    tokLt po (openTok b) y ↔ tokLt po (closeTok b) y := by
  have e : (closeTok b).time = b.ts := by rw [closeTok, hb, Int.add_zero]
  by_cases ht : b.ts = y.time
  · rw [tokLt_zero_pos po (x := openTok b) ht hb hy, tokLt_zero_pos po (x := closeTok b) (e.trans ht) hb hy, e]
    rfl
  · rw [tokLt_of_time_ne (x := openTok b) ht, tokLt_of_time_ne (x := closeTok b) (e ▸ ht), e]
    rfl

/-- Laminarity as the push/pop loop uses it: an event opened inside another closes before it. -/
theorem closes_nested {po : Int → Bool} {es : List Ev} (wf : WF es) {a b : Ev} (ha : a ∈ es) (hb : b ∈ es)
    (h1 : tokLt po (openTok a) (openTok b)) (h2 : tokLt po (openTok b) (closeTok a)) :
    tokLt po (closeTok b) (closeTok a) := by
  have da := wf.durNonneg a ha
  have db := wf.durNonneg b hb
  rcases Int.lt_or_eq_of_le db with hbp | hbz <;> rcases Int.lt_or_eq_of_le da with hap | haz
  · -- two positive spans: three cases, by why `a` opens first; closes are ordered by end, then longer last, then id
    rw [open_lt_close_iff po hbp hap] at h2
    rw [close_lt_close_iff po hbp hap]
    have n := wf.nested a ha b hb hap hbp
    unfold Ev.fin at *
    rcases (open_lt_open_iff po hap hbp).mp h1 with o | ⟨e, o | ⟨e', i⟩⟩
    · -- it starts earlier: `b` starts within `a`, which leaves the third alternative of `n`; ending together,
      -- `a` is the longer
      have f : b.ts + b.dur ≤ a.ts + a.dur := ((n.resolve_left (Int.not_le.mpr h2)).resolve_left
        (Int.not_le.mpr (Int.lt_trans o (Int.lt_add_of_pos_right b.ts hbp)))).elim And.right
          fun n => absurd o (Int.not_lt.mpr n.1)
      exact (Int.lt_or_eq_of_le f).imp_right fun e =>
        ⟨e, Or.inl (Int.lt_of_add_lt_add_left (e ▸ Int.add_lt_add_right o b.dur))⟩
    · -- same start, `a` longer: it ends later
      exact Or.inl (by rw [e]; exact Int.add_lt_add_left o _)
    · -- same span: the ids decide, and the closes take them in the opposite order
      exact Or.inr ⟨by rw [e, e'], Or.inr ⟨e'.symm, i⟩⟩
  · -- a positive `b` cannot open between the two tokens of a zero-duration `a`
    exact absurd h2 (tokLt_asymm ((zero_dur_same_side po haz.symm (y := openTok b) hbp).mp h1))
  · -- both tokens of a zero-duration `b` come before the end of a positive `a`
    exact (zero_dur_same_side po hbz.symm (y := closeTok a) hap).mp h2
  · -- two zero-duration events at one instant: starts by id ascending, ends descending
    have t2 : b.ts ≤ a.ts + a.dur := tokLt_time h2
    rw [← haz, Int.add_zero] at t2
    have e : a.ts = b.ts := Int.le_antisymm (tokLt_time h1) t2
    have hi : a.idx < b.idx := by
      simpa [openTok] using (tokLt_zero_zero po (openTok_ok da) (openTok_ok db) e haz.symm hbz.symm).mp h1
    exact (tokLt_zero_zero po (closeTok_ok db) (closeTok_ok da)
      (show b.ts + b.dur = a.ts + a.dur by rw [← haz, ← hbz, e]) hbz.symm haz.symm).mpr (by simpa [closeTok] using hi)

theorem tokEncl_iff (po : Int → Bool) {es : List Ev} (wf : WF es) {c a : Ev} (hc : c ∈ es) (ha : a ∈ es)
    (hpos : 0 < a.dur) : TokEncl po c a ↔ Encl c a := by
  by_cases hi : c.idx = a.idx
  · obtain rfl := wf.idxInj c hc a ha hi
    exact ⟨fun h => absurd h.1 (tokLt_irrefl po _), fun h => absurd rfl h.1⟩
  rcases Int.lt_or_eq_of_le (wf.durNonneg c hc) with hcp | hcz
  · -- `Encl c a` says that `c` opens first and `a` opens within it; then `a` closes first (`closes_nested`)
    have o := open_lt_open_iff po hcp hpos
    refine ⟨fun h => ⟨hi, hcp, tokLt_time h.1, tokLt_time h.2, fun e => ?_⟩, fun ⟨_, _, h1, h2, h3⟩ => ?_⟩
    · exact (o.mp h.1).elim (fun l => absurd e.1 (Int.ne_of_lt l)) fun t =>
        t.2.elim (fun l => absurd e.2.symm (Int.ne_of_lt l)) And.right
    · have oc : tokLt po (openTok c) (openTok a) := o.mpr ((Int.lt_or_eq_of_le h1).imp_right fun e =>
        ⟨e, (Int.lt_or_eq_of_le (Int.le_of_add_le_add_left (e ▸ show a.ts + a.dur ≤ c.ts + c.dur from h2))).imp_right
          fun e' => ⟨e'.symm, h3 ⟨e, e'.symm⟩⟩⟩)
      exact ⟨oc, closes_nested wf hc ha oc ((open_lt_close_iff po hpos hcp).mpr
        (Int.lt_of_lt_of_le (Int.lt_add_of_pos_right a.ts hpos) h2))⟩
  · -- a zero-duration event encloses no positive one, in either sense
    refine ⟨fun h => ?_, fun h => absurd hcz (Int.ne_of_lt h.2.1)⟩
    have t1 : c.ts ≤ a.ts := tokLt_time h.1
    have t2 : a.ts + a.dur ≤ c.ts + c.dur := tokLt_time h.2
    omega

end Hta.C03
