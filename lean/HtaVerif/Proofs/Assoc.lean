import HtaVerif.Proofs.ListLemmas
/-!
The model files keep several small tables as lists of pairs, looked up with
`(l.find? fun p => p.1 == k).map (·.2)` (`C08.lastOn`, `C08.ksGet`, `C09.distOf`, `C11.lookup`, `C19.outOf`,
`C19.Store.read`, `C20.getKey`) and assigned to by "overwrite the entry, else append one" (`C08.setLast`,
`C08.ksSet`, `C20.setKey`). `assocGet` and `assocSet` are these two functions. Each lookup is `assocGet` by
unfolding (`distOf` and `outOf` then supply a default); the files that rewrite with this state it as a `rfl` lemma
(`lookup_eq`, `getKey_eq`, …). The assignments are `assocSet` likewise, except that `C20.setKey` writes back the key
it found instead of the key it was given (`C20.setKey_eq`).
-/
namespace Hta

section
variable {α β : Type} [BEq α]

def assocGet (l : List (α × β)) (k : α) : Option β := (l.find? fun p => p.1 == k).map (·.2)

def assocSet (l : List (α × β)) (k : α) (v : β) : List (α × β) :=
  if l.any (fun p => p.1 == k) then l.map fun p => if p.1 == k then (k, v) else p else l ++ [(k, v)]

theorem assocGet_cons (p : α × β) (l : List (α × β)) (k : α) :
    assocGet (p :: l) k = if p.1 == k then some p.2 else assocGet l k := by
  rw [assocGet, List.find?_cons]
  cases p.1 == k <;> rfl

variable [LawfulBEq α]

theorem any_fst_beq_iff {l : List (α × β)} {k : α} : l.any (fun p => p.1 == k) = true ↔ k ∈ l.map (·.1) := by
  simp only [List.any_eq_true, List.mem_map, beq_iff_eq]

theorem assocGet_eq_none_iff {l : List (α × β)} {k : α} : assocGet l k = none ↔ k ∉ l.map (·.1) := by
  rw [assocGet, Option.map_eq_none_iff, List.find?_eq_none, ← any_fst_beq_iff, List.any_eq_true]
  exact ⟨fun h ⟨p, hp, hk⟩ => h p hp hk, fun h p hp hk => h ⟨p, hp, hk⟩⟩

theorem exists_assocGet_of_mem_keys {l : List (α × β)} {k : α}
    (h : k ∈ l.map (·.1)) : ∃ v, assocGet l k = some v :=
  Option.ne_none_iff_exists'.mp fun e => assocGet_eq_none_iff.mp e h

theorem assocGet_mem {l : List (α × β)} {k : α} {v : β} (h : assocGet l k = some v) : (k, v) ∈ l := by
  obtain ⟨p, hf, rfl⟩ := Option.map_eq_some_iff.mp h
  have hk : p.1 = k := by simpa using List.find?_some hf
  exact hk ▸ List.mem_of_find?_eq_some hf

theorem assocGet_of_mem {l : List (α × β)} (hnd : (l.map (·.1)).Nodup) {k : α} {v : β}
    (h : (k, v) ∈ l) : assocGet l k = some v := by
  -- some entry with the key `k` is found, and `(k, v)` is the only one
  obtain ⟨v', hv'⟩ := exists_assocGet_of_mem_keys (List.mem_map_of_mem (f := (·.1)) h)
  rw [hv', ← (Prod.mk.inj (nodup_map_inj hnd h (assocGet_mem hv') rfl)).2]

theorem assocGet_concat (l : List (α × β)) (k k' : α) (v : β) :
    assocGet (l ++ [(k', v)]) k = (assocGet l k).or (if k == k' then some v else none) := by
  rw [assocGet, List.find?_append, Option.map_or, List.find?_singleton, BEq.comm, apply_ite (Option.map _)]
  rfl

theorem assocGet_map_val {γ : Type} (f : α → β → γ) (l : List (α × β)) (k : α) :
    assocGet (l.map fun p => (p.1, f p.1 p.2)) k = (assocGet l k).map (f k) := by
  induction l with
  | nil => rfl
  | cons p l ih =>
    rw [List.map_cons, assocGet_cons, assocGet_cons, ih]
    cases h : p.1 == k
    · rfl
    · rw [eq_of_beq h]; rfl

theorem assocSet_of_mem {l : List (α × β)} {k : α} (h : k ∈ l.map (·.1)) (v : β) :
    assocSet l k v = l.map fun p => (p.1, if p.1 == k then v else p.2) := by
  refine (if_pos (any_fst_beq_iff.mpr h)).trans (List.map_congr_left fun p _ => ?_)
  cases h : p.1 == k
  · rfl
  · rw [eq_of_beq h]; rfl

theorem assocSet_of_not_mem {l : List (α × β)} {k : α} (h : k ∉ l.map (·.1)) (v : β) :
    assocSet l k v = l ++ [(k, v)] :=
  if_neg (mt any_fst_beq_iff.mp h)

theorem mem_assocSet {l : List (α × β)} {k : α} {v : β} {x : α × β} (h : x ∈ assocSet l k v) :
    x = (k, v) ∨ (x ∈ l ∧ x.1 ≠ k) := by
  by_cases hk : k ∈ l.map (·.1)
  · rw [assocSet_of_mem hk] at h
    obtain ⟨y, hy, rfl⟩ := List.mem_map.mp h
    by_cases hy' : y.1 = k
    · exact .inl (by rw [if_pos (beq_of_eq hy'), hy'])
    · exact .inr ⟨by rwa [if_neg fun e => hy' (eq_of_beq e)], hy'⟩
  · rw [assocSet_of_not_mem hk] at h
    rcases List.mem_append.mp h with h | h
    · exact .inr ⟨h, fun e => hk (e ▸ List.mem_map_of_mem h)⟩
    · exact .inl (List.mem_singleton.mp h)

/-- The test is spelled with `any`, as in `assocSet` and in the statement of `C20_update_rank_only_rank`. -/
theorem assocSet_keys (l : List (α × β)) (k : α) (v : β) :
    (assocSet l k v).map (·.1) = if l.any (fun p => p.1 == k) then l.map (·.1) else l.map (·.1) ++ [k] := by
  by_cases hk : k ∈ l.map (·.1)
  · rw [assocSet_of_mem hk, if_pos (any_fst_beq_iff.mpr hk), List.map_map]
    rfl
  · rw [assocSet_of_not_mem hk, if_neg (mt any_fst_beq_iff.mp hk), List.map_append]
    rfl

theorem assocSet_nodup {l : List (α × β)} (hnd : (l.map (·.1)).Nodup) (k : α) (v : β) :
    ((assocSet l k v).map (·.1)).Nodup := by
  rw [assocSet_keys]
  split
  · exact hnd
  · next h =>
    exact (List.perm_append_singleton k _).nodup_iff.mpr (List.nodup_cons.mpr ⟨mt any_fst_beq_iff.mpr h, hnd⟩)

theorem assocGet_assocSet [DecidableEq α] (l : List (α × β)) (k k' : α) (v : β) :
    assocGet (assocSet l k v) k' = if k' = k then some v else assocGet l k' := by
  by_cases hk : k ∈ l.map (·.1)
  · rw [assocSet_of_mem hk, assocGet_map_val fun a b => if a == k then v else b]
    by_cases h : k' = k
    · obtain ⟨_, hg⟩ := exists_assocGet_of_mem_keys hk
      simp [h, hg]
    · simp [h]
  · rw [assocSet_of_not_mem hk, assocGet_concat]
    by_cases h : k' = k
    · simp [h, assocGet_eq_none_iff.mpr hk]
    · simp [h]

theorem assocGet_map_graph (g : α → β) (u : α) (l : List α) :
    assocGet (l.map fun x => (x, g x)) u = if u ∈ l then some (g u) else none := by
  induction l with
  | nil => rfl
  | cons x xs ih =>
    rw [List.map_cons, assocGet_cons, ih]
    by_cases h : x = u
    · simp [h]
    · simp [h, Ne.symm h]

theorem filter_fst_flatMap_graph (f : α → List β) (u : α)
    {l : List α} (hnd : l.Nodup) :
    (l.flatMap fun x => (f x).map (x, ·)).filter (·.1 == u) = if u ∈ l then (f u).map (u, ·) else [] := by
  induction l with
  | nil => rfl
  | cons x xs ih =>
    have ⟨hx, hxs⟩ := List.nodup_cons.mp hnd
    rw [List.flatMap_cons, List.filter_append, ih hxs, List.filter_map, Function.comp_def]
    by_cases h : x = u
    · subst h
      rw [List.filter_eq_self.mpr fun _ _ => beq_self_eq_true x, if_neg hx, List.append_nil,
        if_pos List.mem_cons_self]
    · simp [h, Ne.symm h]

end

end Hta
