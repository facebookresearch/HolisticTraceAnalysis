import HtaVerif.Proofs.C08
import HtaVerif.Proofs.C03Stack
/-!
The call-stack walk of C08 (`dfsStep` / `dfsRun` / `threadDescs`): every edge it emits runs from the node of an
earlier endpoint token to the node of the current one.
-/
namespace Hta.C08

theorem sortToks_time_sorted (po : Int → Bool) {es : List C03.Ev} (wf : C03.WF es) :
    (C03.sortToks po (C03.tokens es)).Pairwise fun a b => a.time ≤ b.time :=
  (C03.sortToks_spec po wf).2.imp C03.tokLt_time

/-- `n` is one of the two nodes the walk's state remembers, the only ones a later edge can leave. -/
def DS.Remembers (s : DS) (n : NodeId) : Prop := s.lastNode = some n ∨ s.lastHigh = some n

theorem DS.not_remembers_init {p : Int} {n : NodeId} : ¬ (⟨none, p, none, 0⟩ : DS).Remembers n :=
  fun h => h.elim nofun nofun

/-- What a step of the walk at token `t` in state `s` returns: the new state by the class of the token (no nodes /
start / the end that closes the outermost operator / another end) and the shapes of what is emitted. A predicate of
the result `o`, so that `dfsStep` is unfolded once for the two fields. -/
structure DStepOK (nodeEv : Int → Bool) (parent : Int → Int) (s : DS) (t : C03.Tok) (o : DS × List Desc) : Prop where
  state :
    (nodeEv t.idx = false ∧
      o.1 = { s with lastPar := if t.kind = 1 ∧ s.lastPar = t.idx then parent t.idx else s.lastPar }) ∨
    (nodeEv t.idx = true ∧ t.kind = -1 ∧ o.1 = ⟨some ⟨t.idx, true⟩, parent t.idx, s.lastHigh, s.depth + 1⟩) ∨
    (nodeEv t.idx = true ∧ t.kind ≠ -1 ∧
      (o.1 = ⟨none, s.lastPar, some ⟨t.idx, false⟩, 0⟩ ∨
       o.1 = ⟨some ⟨t.idx, false⟩, parent t.idx, s.lastHigh, s.depth - 1⟩))
  emits : ∀ d ∈ o.2, nodeEv t.idx = true ∧
    ((t.kind = -1 ∧ ∃ h, s.lastHigh = some h ∧ d = ⟨h, ⟨t.idx, true⟩, .dep, false, -1⟩) ∨
     ∃ ln z, s.lastNode = some ln ∧ d = ⟨ln, ⟨t.idx, t.kind == -1⟩, .op, z, s.lastPar⟩)

theorem dfsStep_ok (nodeEv : Int → Bool) (parent : Int → Int) (blocking : Int → Bool) (s : DS) (t : C03.Tok) :
    DStepOK nodeEv parent s t (dfsStep nodeEv parent blocking s t) := by
  unfold dfsStep
  cases hn : nodeEv t.idx
  · rw [if_pos Bool.not_false]
    exact ⟨.inl ⟨hn, by simp only [Bool.and_eq_true, beq_iff_eq]; split <;> rfl⟩, fun _ h => nomatch h⟩
  · rw [if_neg (by decide)]
    by_cases hk : t.kind = -1
    · rw [if_pos (beq_iff_eq.mpr hk)]
      refine ⟨.inr (.inl ⟨hn, hk, rfl⟩), fun d hd => ⟨hn, ?_⟩⟩
      rcases List.mem_append.mp hd with hd | hd
      · split at hd
        · next h _ hh => exact .inl ⟨hk, h, hh, List.mem_singleton.mp hd⟩
        · cases hd
      · obtain ⟨ln, hln, rfl⟩ := mem_span hd
        exact .inr ⟨ln, false, hln, by rw [beq_iff_eq.mpr hk]⟩
    · rw [if_neg (mt beq_iff_eq.mp hk)]
      refine ⟨.inr (.inr ⟨hn, hk, ?_⟩), fun d hd => ⟨hn, .inr ?_⟩⟩
      · by_cases hd : (s.depth - 1 == 0) = true
        · exact .inl (by rw [if_pos hd])
        · exact .inr (by rw [if_neg hd])
      · -- both branches on the depth emit the same list
        rw [apply_ite Prod.snd, ite_self] at hd
        obtain ⟨ln, hln, rfl⟩ := mem_span hd
        exact ⟨ln, _, hln, by rw [beq_false_of_ne hk]⟩

section
variable {nodeEv : Int → Bool} {parent : Int → Int} {s : DS} {t : C03.Tok} {o : DS × List Desc}
  (ok : DStepOK nodeEv parent s t o)
include ok

theorem DStepOK.remembers {n : NodeId} (h : o.1.Remembers n) :
    s.Remembers n ∨ (nodeEv t.idx = true ∧ n = ⟨t.idx, t.kind == -1⟩) := by
  rcases ok.state with ⟨_, hs⟩ | ⟨hn, hk, hs⟩ | ⟨hn, hk, hs | hs⟩ <;> rw [hs] at h
  · exact .inl h
  · rcases h with h | h
    · exact .inr ⟨hn, by rw [hk]; exact (Option.some.inj h).symm⟩
    · exact .inl (.inr h)
  · rcases h with h | h
    · cases h
    · exact .inr ⟨hn, by rw [beq_false_of_ne hk]; exact (Option.some.inj h).symm⟩
  · rcases h with h | h
    · exact .inr ⟨hn, by rw [beq_false_of_ne hk]; exact (Option.some.inj h).symm⟩
    · exact .inl (.inr h)

theorem DStepOK.lastPar : o.1.lastPar = s.lastPar ∨ o.1.lastPar = parent t.idx := by
  rcases ok.state with ⟨_, hs⟩ | ⟨_, _, hs⟩ | ⟨_, _, hs | hs⟩ <;> rw [hs]
  · split
    · exact .inr rfl
    · exact .inl rfl
  · exact .inr rfl
  · exact .inl rfl
  · exact .inr rfl

theorem DStepOK.origin : ∀ d ∈ o.2, nodeEv t.idx = true ∧ d.dst = ⟨t.idx, t.kind == -1⟩ ∧ s.Remembers d.src ∧
    (d.par = -1 ∨ d.par = s.lastPar) := by
  intro d hd
  obtain ⟨hn, ⟨hk, h, hh, rfl⟩ | ⟨ln, z, hln, rfl⟩⟩ := ok.emits d hd
  · exact ⟨hn, by rw [hk]; rfl, .inr hh, .inl rfl⟩
  · exact ⟨hn, rfl, .inl hln, .inr rfl⟩

end

/-- What `_construct_graph_from_call_stack` emits: every edge enters the node of a token of an event with nodes and
leaves the node of an earlier such token (or one the start state remembers); the parent it records is −1, the start
state's, or that of an earlier token's event. By induction on the tokens for every start state: what the state after
the first step remembers comes from the start state or from the first token. -/
theorem dfsRun_emits (nodeEv : Int → Bool) (parent : Int → Int) (blocking : Int → Bool) (s0 : DS)
    (toks : List C03.Tok) :
    ∀ d ∈ dfsRun nodeEv parent blocking s0 toks, ∃ pre t post, toks = pre ++ t :: post ∧
      nodeEv t.idx = true ∧ d.dst = ⟨t.idx, t.kind == -1⟩ ∧
      (s0.Remembers d.src ∨ ∃ x ∈ pre, nodeEv x.idx = true ∧ d.src = ⟨x.idx, x.kind == -1⟩) ∧
      (d.par = -1 ∨ d.par = s0.lastPar ∨ ∃ x ∈ pre, d.par = parent x.idx) := by
  induction toks generalizing s0 with
  | nil => exact fun _ h => nomatch h
  | cons a as ih =>
    intro d hd
    have ok := dfsStep_ok nodeEv parent blocking s0 a
    rcases List.mem_append.mp hd with hd | hd
    · obtain ⟨hn, hdst, hsrc, hpar⟩ := ok.origin d hd
      exact ⟨[], a, as, rfl, hn, hdst, .inl hsrc, hpar.imp_right .inl⟩
    · obtain ⟨pre, t, post, rfl, hn, hdst, hsrc, hpar⟩ := ih _ d hd
      refine ⟨a :: pre, t, post, rfl, hn, hdst, ?_, hpar.imp_right ?_⟩
      · rcases hsrc with h | ⟨x, hx, h⟩
        · exact (ok.remembers h).imp_right fun h => ⟨a, List.mem_cons_self, h⟩
        · exact .inr ⟨x, List.mem_cons_of_mem _ hx, h⟩
      · rintro (h | ⟨x, hx, h⟩)
        · exact ok.lastPar.imp (h ▸ ·) fun h' => ⟨a, List.mem_cons_self, h ▸ h'⟩
        · exact .inr ⟨x, List.mem_cons_of_mem _ hx, h⟩

/-- The walk's edges point forward when the tokens are sorted by time and carry the times of their nodes; `h0`: the
nodes the start state remembers are no later than any token. -/
theorem dfsRun_forward (rows : List Row) (nodeEv : Int → Bool) (parent : Int → Int)
    (blocking : Int → Bool) (toks : List C03.Tok)
    (hsorted : toks.Pairwise fun a b => a.time ≤ b.time)
    (hts : ∀ t ∈ toks, nodeEv t.idx = true → tsOf rows ⟨t.idx, t.kind == -1⟩ = t.time)
    (s : DS) (h0 : ∀ n, s.Remembers n → ∀ t ∈ toks, tsOf rows n ≤ t.time) :
    ∀ d ∈ dfsRun nodeEv parent blocking s toks, tsOf rows d.src ≤ tsOf rows d.dst := by
  intro d hd
  obtain ⟨pre, t, post, rfl, hn, hdst, hsrc, _⟩ := dfsRun_emits nodeEv parent blocking s _ d hd
  rw [hdst, hts t (by simp) hn]
  rcases hsrc with h | ⟨x, hx, hxn, h⟩
  · exact h0 _ h t (by simp)
  · rw [h, hts x (List.mem_append_left _ hx) hxn]
    exact hsorted.rel_of_mem_append hx List.mem_cons_self

/-- The events of thread `t` as `threadDescs` hands them to C03 (a negative duration counts as 0). -/
abbrev threadEvs (clipped : List Row) (t : Int × Int) : List C03.Ev :=
  (C13.threadRows clipped t).map fun r => ⟨r.idx, r.ts, max r.dur 0⟩

/-- The parent `C03.run` records for event `i`; −1 for a root and for an event without entry. -/
abbrev runParent (evs : List C03.Ev) (i : Int) : Int :=
  (((C03.run evs).find? fun e => e.1 == i).map (·.2.1)).getD (-1)

theorem mem_threadDescs {clipped : List Row} {t : Int × Int} {d : Desc} (h : d ∈ threadDescs clipped t) :
    ∃ blocking, d ∈ dfsRun (hasNodeIn clipped) (runParent (threadEvs clipped t)) blocking ⟨none, -1, none, 0⟩
      (C03.sortToks (C03.hasPO (threadEvs clipped t)) (C03.tokens (threadEvs clipped t))) := by
  unfold threadDescs at h
  simp only [] at h
  split at h
  · cases h
  · exact ⟨_, h⟩

theorem threadEvs_row (rows clipped : List Row) (t : Int × Int)
    (hrows : ∀ r ∈ clipped, findRow rows r.idx = some r) (hdur : ∀ r ∈ clipped, 0 ≤ r.dur) :
    ∀ e ∈ threadEvs clipped t, (∃ r ∈ clipped, r.idx = e.idx) ∧
      tsOf rows ⟨e.idx, true⟩ = e.ts ∧ tsOf rows ⟨e.idx, false⟩ = e.ts + e.dur := by
  intro e he
  obtain ⟨r, hr, rfl⟩ := List.mem_map.mp he
  have hrc : r ∈ clipped := (List.mem_filter.mp hr).1
  refine ⟨⟨r, hrc, rfl⟩, tsOf_start (hrows r hrc), ?_⟩
  show tsOf rows ⟨r.idx, false⟩ = r.ts + max r.dur 0
  rw [tsOf_end (hrows r hrc), Int.max_eq_left (hdur r hrc)]

theorem threadDescs_nodes (clipped : List Row) (t : Int × Int) :
    ∀ d ∈ threadDescs clipped t, hasNodeIn clipped d.src.ev = true ∧ hasNodeIn clipped d.dst.ev = true := by
  intro d hd
  obtain ⟨_, hd⟩ := mem_threadDescs hd
  obtain ⟨_, t, _, _, hn, hdst, hsrc | ⟨x, _, hxn, hsrc⟩, _⟩ := dfsRun_emits _ _ _ _ _ d hd
  · exact absurd hsrc DS.not_remembers_init
  · rw [hsrc, hdst]; exact ⟨hxn, hn⟩

end Hta.C08
