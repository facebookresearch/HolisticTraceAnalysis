import HtaVerif.Model.C08
import HtaVerif.Proofs.Assoc
/-!
What the parts of the critical-path graph proofs share: the kernel loop's `last` table as an association list, node times,
the induction over a run with an invariant that sees the split (`mem_run`), and how the graph is built from descriptors.
-/

namespace Hta.C08

theorem lastOn_setLast (l : KS) (s s' : Int) (n : NodeId) (hnd : (l.map (·.1)).Nodup) :
    lastOn (setLast l s n) s' = if s' = s then some n else lastOn l s' := assocGet_assocSet l s s' n

theorem setLast_nodup (l : KS) (s : Int) (n : NodeId) (hnd : (l.map (·.1)).Nodup) :
    ((setLast l s n).map (·.1)).Nodup := assocSet_nodup hnd s n

theorem tsOf_start {rows : List Row} {r : Row} (h : findRow rows r.idx = some r) :
    tsOf rows ⟨r.idx, true⟩ = r.ts := by simp [tsOf, h, nodeTs]

theorem tsOf_end {rows : List Row} {r : Row} (h : findRow rows r.idx = some r) :
    tsOf rows ⟨r.idx, false⟩ = r.ts + r.dur := by simp [tsOf, h, nodeTs]

/-- The induction behind `dfsRun` and `kernelRun`: if every step carries `I done rest s` along, each emitted item
comes from a step taken at some split of the input in a state satisfying `I`. -/
theorem mem_run {σ α δ : Type} (step : σ → α → σ × List δ) (run : σ → List α → List δ)
    (hnil : ∀ s, run s [] = []) (hcons : ∀ s a as, run s (a :: as) = (step s a).2 ++ run (step s a).1 as)
    (I : List α → List α → σ → Prop)
    (hstep : ∀ done a rest s, I done (a :: rest) s → I (done ++ [a]) rest (step s a).1) :
    ∀ (l done : List α) (s : σ), I done l s → ∀ d ∈ run s l,
      ∃ pre a post s', done ++ l = pre ++ a :: post ∧ I pre (a :: post) s' ∧ d ∈ (step s' a).2 := by
  intro l done s inv d hd
  induction l generalizing done s with
  | nil => rw [hnil] at hd; cases hd
  | cons a as ih =>
    rw [hcons] at hd
    rcases List.mem_append.mp hd with hd | hd
    · exact ⟨done, a, as, s, rfl, inv, hd⟩
    · obtain ⟨pre, b, post, s', hsplit, h⟩ := ih _ _ (hstep done a as s inv) hd
      exact ⟨pre, b, post, s', by rw [← hsplit, List.append_assoc, List.singleton_append], h⟩

theorem forall_descs {P : Desc → Prop} {rows clipped : List Row} {ws : Waits} {zl : Bool}
    (ht : ∀ t ∈ C13.threadsOf clipped, ∀ d ∈ threadDescs clipped t, P d)
    (hk : ∀ d ∈ kernelRun rows clipped ws (queueOf (C14.run rows)) zl ⟨[], []⟩ (kernelRows rows clipped), P d) :
    ∀ d ∈ descs rows clipped ws zl, P d :=
  List.forall_mem_append.mpr ⟨List.forall_mem_flatMap.mpr ht, hk⟩

theorem mem_addEdge {g : G} {e x : Edge} :
    x ∈ (addEdge g e).edges ↔ (x ∈ g.edges ∧ ¬ (x.src = e.src ∧ x.dst = e.dst)) ∨ x = e := by
  simp only [addEdge, List.mem_append, List.mem_filter, List.mem_singleton, Bool.not_eq_true',
    Bool.and_eq_false_iff, decide_eq_false_iff_not, Classical.not_and_iff_not_or_not]

theorem attributeEdge_edges (g : G) (e : Edge) (p : Int) : (attributeEdge g e p).edges = g.edges := by
  unfold attributeEdge
  split <;> rfl

/-- Membership in the one-or-none list the two step functions build from an optional node. -/
theorem mem_span {o : Option NodeId} {f : NodeId → Desc} {d : Desc}
    (h : d ∈ (match o with | some ln => [f ln] | none => [])) : ∃ ln, o = some ln ∧ d = f ln := by
  cases o with
  | none => cases h
  | some ln => exact ⟨ln, rfl, List.mem_singleton.mp h⟩

theorem applyAll_induction {I : G → Prop} (rows : List Row) {ds : List Desc}
    (hstep : ∀ g, I g → ∀ d ∈ ds, I (applyDesc rows g d)) {g : G} (hg : I g) : I (applyAll rows g ds) :=
  List.foldlRecOn ds (applyDesc rows) hg hstep

end Hta.C08
