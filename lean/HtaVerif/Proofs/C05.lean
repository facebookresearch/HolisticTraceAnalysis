import HtaVerif.Spec.C05
import HtaVerif.Proofs.ListLemmas
/-! The per-kernel table of C05: `sumL`, grouping by name (`distinct`, `dursOf`) and the sums it conserves.
C10's class sums and C17's comparison table are groupings of the same kind. -/

namespace Hta.C05

theorem sumL_eq_sum (l : List Int) : sumL l = l.sum := by
  induction l with
  | nil => rfl
  | cons x xs ih => rw [sumL, ih, List.sum_cons]

theorem sumL_append (a b : List Int) : sumL (a ++ b) = sumL a + sumL b := by
  rw [sumL_eq_sum, sumL_eq_sum, sumL_eq_sum, List.sum_append_int]

theorem sumL_perm {a b : List Int} (h : a.Perm b) : sumL a = sumL b := by
  rw [sumL_eq_sum, sumL_eq_sum, sum_perm h]

theorem sumL_map_add {α : Type} (l : List α) (f g : α → Int) :
    sumL (l.map fun x => f x + g x) = sumL (l.map f) + sumL (l.map g) := by
  induction l with
  | nil => rfl
  | cons x xs ih => simp only [List.map_cons, sumL, ih, Int.add_assoc, Int.add_left_comm (g x)]

theorem sumL_map_zero {α : Type} (l : List α) : sumL (l.map fun _ => (0 : Int)) = 0 := by
  rw [sumL_eq_sum, List.map_const', List.sum_replicate_int, Int.mul_zero]

theorem sumL_indicator {α : Type} [BEq α] [LawfulBEq α] (ns : List α) (m : α) (d : Int) (hnd : ns.Nodup) :
    sumL (ns.map fun n => if m == n then d else 0) = if m ∈ ns then d else 0 := by
  induction ns with
  | nil => rfl
  | cons n ns ih =>
    have hnd' := List.nodup_cons.mp hnd
    simp only [List.map_cons, sumL, ih hnd'.2]
    by_cases h : m = n
    · simp [h, hnd'.1]
    · simp [h]

theorem sumL_dursOf_cons (m : String) (d : Int) (ks : List (String × Int)) (n : String) :
    sumL (dursOf ((m, d) :: ks) n) = (if m == n then d else 0) + sumL (dursOf ks n) := by
  rw [dursOf, List.filter_cons]
  cases m == n
  · exact (Int.zero_add _).symm
  · rfl

/-- Each entry `(m, d)` contributes `d` to the group of `m` and nothing elsewhere (`sumL_indicator`). -/
theorem sumL_groups_of_cover (ks : List (String × Int)) :
    ∀ ns : List String, ns.Nodup → (∀ k ∈ ks, k.1 ∈ ns) →
      sumL (ns.map fun n => sumL (dursOf ks n)) = sumL (ks.map (·.2)) := by
  induction ks with
  | nil => intro ns _ _; simp only [dursOf, List.filter_nil, List.map_nil, sumL]; exact sumL_map_zero ns
  | cons k ks ih =>
    intro ns hnd hcov
    obtain ⟨m, d⟩ := k
    simp only [sumL_dursOf_cons, sumL_map_add, sumL_indicator ns m d hnd, if_pos (hcov (m, d) List.mem_cons_self),
      ih ns hnd fun k hk => hcov k (List.mem_cons_of_mem _ hk), List.map_cons, sumL]

theorem mem_distinct {l : List String} {n : String} : n ∈ distinct l ↔ n ∈ l := by
  induction l with
  | nil => exact Iff.rfl
  | cons a l ih =>
    simp only [distinct, List.mem_cons, List.mem_filter, ih]
    by_cases h : n = a <;> simp [h]

theorem distinct_nodup (l : List String) : (distinct l).Nodup := by
  induction l with
  | nil => exact List.nodup_nil
  | cons a l ih => exact List.nodup_cons.mpr ⟨by simp [List.mem_filter], ih.filter _⟩

theorem group_sum_distinct (ks : List (String × Int)) :
    sumL ((distinct (ks.map (·.1))).map fun n => sumL (dursOf ks n)) = sumL (ks.map (·.2)) :=
  sumL_groups_of_cover ks _ (distinct_nodup _) fun k hk =>
    mem_distinct.mpr (List.mem_map.mpr ⟨k, hk, rfl⟩)

theorem group_sum (ks : List (String × Int)) :
    sumL ((groupStats ks).map (·.sum)) = sumL (ks.map (·.2)) := by
  rw [← group_sum_distinct, groupStats, List.map_map]
  rfl

theorem groupStats_names (ks : List (String × Int)) :
    (groupStats ks).map (·.name) = distinct (ks.map (·.1)) :=
  map_map_of_leftInverse (fun _ => rfl) _

theorem mem_groupStats {ks : List (String × Int)} {s : Stat} (h : s ∈ groupStats ks) :
    s.name ∈ ks.map (·.1) ∧ s = statOf ks s.name := by
  obtain ⟨n, hn, rfl⟩ := List.mem_map.mp h
  exact ⟨mem_distinct.mp hn, rfl⟩

end Hta.C05
