import HtaVerif.Proofs.C03Order
/-! The push/pop loop over a sorted token list: the invariant `Inv` that `step` keeps, and what the
recorded entries say once the loop has run. -/

namespace Hta.C03

def isOpen (t : Tok) : Bool := t.kind == -1

/-- The stack the start token of `f` finds: the start tokens of the events opened before `f`'s start and
closed after it, most recently opened first. -/
def StackFor (po : Int → Bool) (es : List Ev) (f : Ev) (stk : List Tok) : Prop :=
  stk.Pairwise (fun x y => tokLt po y x) ∧
  ∀ x, x ∈ stk ↔ ∃ e ∈ es, x = openTok e ∧ tokLt po x (openTok f) ∧ tokLt po (openTok f) (closeTok e)

/-- `ent` is what `step` records for `f` on that stack: the top as parent, the height as depth. -/
def Good (po : Int → Bool) (es : List Ev) (f : Ev) (ent : Entry) : Prop :=
  ∃ stk, StackFor po es f stk ∧ ent = (f.idx, parentOf stk, stk.length)

/-- The loop invariant: `s` is the state reached after reading the tokens `P`. -/
structure Inv (po : Int → Bool) (es : List Ev) (P : List Tok) (s : St) : Prop where
  mem : ∀ x, x ∈ s.stack ↔ ∃ e ∈ es, x = openTok e ∧ x ∈ P ∧ closeTok e ∉ P
  sorted : s.stack.Pairwise (fun x y => tokLt po y x)
  outIdx : s.out.map (·.1) = (P.filter isOpen).map (·.idx)
  outGood : ∀ ent ∈ s.out, ∃ f ∈ es, openTok f ∈ P ∧ Good po es f ent

/-- `x` is the start token of an event opened in `P` and not closed in `P`: the right side of `Inv.mem`. -/
def OpenIn (es : List Ev) (P : List Tok) (x : Tok) : Prop :=
  ∃ e ∈ es, x = openTok e ∧ x ∈ P ∧ closeTok e ∉ P

theorem mem_tokens {es : List Ev} {t : Tok} :
    t ∈ tokens es ↔ ∃ e ∈ es, t = openTok e ∨ t = closeTok e := by
  simp only [tokens, List.mem_append, List.mem_map, and_or_left, exists_or, @eq_comm _ t]

theorem filter_isOpen_tokens (es : List Ev) : (tokens es).filter isOpen = es.map openTok := by
  rw [tokens, List.filter_append, List.filter_eq_self.mpr (List.forall_mem_map.mpr fun _ _ => rfl),
    List.filter_eq_nil_iff.mpr (List.forall_mem_map.mpr fun _ _ => Bool.false_ne_true), List.append_nil]

theorem open_ne_close (e f : Ev) : openTok e ≠ closeTok f :=
  fun h => absurd (show (-1 : Int) = 1 from congrArg Tok.kind h) (by decide)

theorem openTok_inj {e f : Ev} (h : openTok e = openTok f) : e = f :=
  congrArg (fun t : Tok => (⟨t.idx, t.time, t.dur⟩ : Ev)) h

theorem closeTok_inj {e f : Ev} (h : closeTok e = closeTok f) : e = f := by
  have := congrArg (fun t : Tok => (⟨t.idx, t.time - t.dur, t.dur⟩ : Ev)) h
  simpa only [closeTok, Int.add_sub_cancel] using this

theorem open_mem_tokens {es : List Ev} {e : Ev} (he : e ∈ es) : openTok e ∈ tokens es :=
  mem_tokens.mpr ⟨e, he, Or.inl rfl⟩

theorem close_mem_tokens {es : List Ev} {e : Ev} (he : e ∈ es) : closeTok e ∈ tokens es :=
  mem_tokens.mpr ⟨e, he, Or.inr rfl⟩

theorem tokens_ok {es : List Ev} (hd : ∀ e ∈ es, 0 ≤ e.dur) : ∀ t ∈ tokens es, TokOk t := by
  intro t ht
  obtain ⟨e, he, rfl | rfl⟩ := mem_tokens.mp ht
  · exact openTok_ok (hd e he)
  · exact closeTok_ok (hd e he)

theorem step_open (s : St) (f : Ev) : step s (openTok f) =
    ⟨openTok f :: s.stack, s.out ++ [(f.idx, parentOf s.stack, s.stack.length)]⟩ := rfl

theorem step_close (s : St) (f : Ev) : step s (closeTok f) = ⟨s.stack.tail, s.out⟩ := rfl

section
variable {po : Int → Bool} {es : List Ev} {P : List Tok} {s : St} {f : Ev} {t x : Tok}

theorem openIn_push (hf : f ∈ es) (hc : closeTok f ∉ P) :
    OpenIn es (P ++ [openTok f]) x ↔ x = openTok f ∨ OpenIn es P x := by
  simp only [OpenIn, List.mem_append, List.mem_singleton, not_or]
  constructor
  · rintro ⟨e, he, rfl, h | h, hce, _⟩
    · exact Or.inr ⟨e, he, rfl, h, hce⟩
    · exact Or.inl h
  · rintro (rfl | ⟨e, he, rfl, h, hce⟩)
    · exact ⟨f, hf, rfl, Or.inr rfl, hc, (open_ne_close f f).symm⟩
    · exact ⟨e, he, rfl, Or.inl h, hce, (open_ne_close f e).symm⟩

theorem openIn_pop :
    OpenIn es (P ++ [closeTok f]) x ↔ OpenIn es P x ∧ x ≠ openTok f := by
  simp only [OpenIn, List.mem_append, List.mem_singleton, not_or]
  constructor
  · rintro ⟨e, he, rfl, h | h, hce, hne⟩
    · exact ⟨⟨e, he, rfl, h, hce⟩, fun h' => hne (congrArg closeTok (openTok_inj h'))⟩
    · exact absurd h (open_ne_close e f)
  · rintro ⟨⟨e, he, rfl, h, hce⟩, hne⟩
    exact ⟨e, he, rfl, Or.inl h, hce, fun h' => hne (congrArg openTok (closeTok_inj h'))⟩

/-- What the loop knows of the order when it reads `t` after `P`: of the tokens of `es`, `P` holds
those below `t`. -/
structure Cut (po : Int → Bool) (es : List Ev) (P : List Tok) (t : Tok) : Prop where
  cur : t ∈ tokens es
  lt : ∀ {u}, u ∈ P → tokLt po u t
  mem : ∀ {u}, u ∈ tokens es → tokLt po u t → u ∈ P

theorem cut_of_sorted {Q : List Tok} (hperm : (P ++ t :: Q).Perm (tokens es))
    (hs : (P ++ t :: Q).Pairwise (tokLt po)) : Cut po es P t where
  cur := hperm.mem_iff.mp (List.mem_append_right _ List.mem_cons_self)
  lt h := hs.rel_of_mem_append h List.mem_cons_self
  mem hu := (mem_split_of_pairwise (fun _ _ => tokLt_asymm) hs rfl (hperm.mem_iff.mpr hu)).1

theorem Cut.mem_iff {u : Tok} (c : Cut po es P t) (hu : u ∈ tokens es) : u ∈ P ↔ tokLt po u t :=
  ⟨c.lt, c.mem hu⟩

theorem Cut.not_mem_iff {u : Tok} (wf : WF es) (c : Cut po es P t) (hu : u ∈ tokens es) (hne : u ≠ t) :
    u ∉ P ↔ tokLt po t u := by
  rw [c.mem_iff hu]
  exact ⟨(tokLt_total po (tokens_ok wf.durNonneg u hu) (tokens_ok wf.durNonneg t c.cur) hne).resolve_left,
    tokLt_asymm⟩

theorem openIn_iff_encl (wf : WF es) (c : Cut po es P (openTok f)) (x : Tok) :
    OpenIn es P x ↔
      ∃ e ∈ es, x = openTok e ∧ tokLt po x (openTok f) ∧ tokLt po (openTok f) (closeTok e) :=
  exists_congr fun e => and_congr_right fun he => and_congr_right fun hx => by
    rw [hx, c.mem_iff (open_mem_tokens he), c.not_mem_iff wf (close_mem_tokens he) (open_ne_close f e).symm]

/-- The unlabelled pop removes `f`: its start token is the largest on the stack. `f` is open, and an event opened
after `f` and still open would have closed before `f` (`closes_nested`). -/
theorem pop_of_close (wf : WF es) (hf : f ∈ es) (c : Cut po es P (closeTok f)) (inv : Inv po es P s) (x : Tok) :
    x ∈ s.stack.tail ↔ OpenIn es (P ++ [closeTok f]) x := by
  have hopen : openTok f ∈ s.stack := (inv.mem _).mpr ⟨f, hf, rfl,
    c.mem (open_mem_tokens hf) (open_lt_close po (wf.durNonneg f hf)), mt c.lt (tokLt_irrefl po _)⟩
  refine (mem_tail_iff_of_max inv.sorted (tokLt_irrefl po) hopen fun y hy hlt => ?_).trans
    ((and_congr_left' (inv.mem x)).trans openIn_pop.symm)
  obtain ⟨g, hg, rfl, hgP, hcg⟩ := (inv.mem y).mp hy
  exact hcg (c.mem (close_mem_tokens hg) (closes_nested wf hf hg hlt (c.lt hgP)))

theorem inv_step (wf : WF es) (c : Cut po es P t) (inv : Inv po es P s) : Inv po es (P ++ [t]) (step s t) := by
  -- recorded entries stay good, since `P` only grows
  have hold := fun ent h => (inv.outGood ent h).imp fun _ =>
    And.imp_right (And.imp_left (List.mem_append_left [t]))
  obtain ⟨f, hf, rfl | rfl⟩ := mem_tokens.mp c.cur
  · -- `stack.append`
    have hcf : closeTok f ∉ P := mt c.lt (tokLt_asymm (open_lt_close po (wf.durNonneg f hf)))
    rw [step_open]
    refine ⟨fun x => ?_, List.pairwise_cons.mpr ⟨fun y hy => ?_, inv.sorted⟩, ?_, fun ent hent => ?_⟩
    · exact (List.mem_cons.trans (or_congr_right (inv.mem x))).trans (openIn_push hf hcf).symm
    · obtain ⟨_, _, _, hyP, _⟩ := (inv.mem y).mp hy
      exact c.lt hyP
    · rw [List.map_append, inv.outIdx, List.filter_append, List.map_append]; rfl
    · rcases List.mem_append.mp hent with h | h
      · exact hold ent h
      · exact ⟨f, hf, List.mem_concat_self, s.stack,
          ⟨inv.sorted, fun x => (inv.mem x).trans (openIn_iff_encl wf c x)⟩, List.mem_singleton.mp h⟩
  · -- `stack.pop(-1)`
    rw [step_close]
    refine ⟨pop_of_close wf hf c inv, inv.sorted.tail, ?_, hold⟩
    rw [List.filter_append, show [closeTok f].filter isOpen = [] from rfl, List.append_nil]
    exact inv.outIdx

theorem inv_init (po : Int → Bool) (es : List Ev) : Inv po es [] { stack := [], out := [] } :=
  ⟨by intro x; simp, List.Pairwise.nil, rfl, by intro e h; cases h⟩

theorem inv_run (wf : WF es) {Q : List Tok} : ∀ {P s}, (P ++ Q).Perm (tokens es) → (P ++ Q).Pairwise (tokLt po) →
    Inv po es P s → Inv po es (P ++ Q) (Q.foldl step s) := by
  induction Q with
  | nil => intro P s _ _ inv; rwa [List.append_nil]
  | cons t Q ih =>
    intro P s hperm hs inv
    have := inv_step wf (cut_of_sorted hperm hs) inv
    rw [List.append_cons] at hperm hs ⊢
    exact ih hperm hs this

end

/-! ### what the loop records, for any sorted token list `S` -/

section
variable {po : Int → Bool} {es : List Ev} {S : List Tok} {f : Ev} {p : Int} {d : Nat}

theorem final_inv (wf : WF es) (hperm : S.Perm (tokens es)) (hs : S.Pairwise (tokLt po)) :
    Inv po es S (S.foldl step { stack := [], out := [] }) :=
  inv_run wf (P := []) hperm hs (inv_init po es)

/-- The stack on which `f` was recorded holds the start tokens of the events whose tokens enclose `f`'s, innermost
first: an event open at `f`'s start closes after `f` (`closes_nested`). -/
theorem entry_stack (wf : WF es) (hperm : S.Perm (tokens es)) (hs : S.Pairwise (tokLt po)) (hf : f ∈ es)
    (hent : (f.idx, p, d) ∈ build S) : ∃ stk, stk.Pairwise (fun x y => tokLt po y x) ∧
      (∀ x, x ∈ stk ↔ ∃ e ∈ es, x = openTok e ∧ TokEncl po e f) ∧ p = parentOf stk ∧ d = stk.length := by
  obtain ⟨g, hg, _, stk, hstk, heq⟩ := (final_inv wf hperm hs).outGood _ hent
  simp only [Prod.mk.injEq] at heq
  obtain rfl := wf.idxInj f hf g hg heq.1
  refine ⟨stk, hstk.1, fun x => (hstk.2 x).trans ?_, heq.2⟩
  exact exists_congr fun e => and_congr_right fun he => and_congr_right fun hx => by
    subst hx
    exact and_congr_right fun h1 =>
      ⟨closes_nested wf he hf h1, tokLt_trans (open_lt_close po (wf.durNonneg f hf))⟩

/-- The parent in token order: the innermost event whose tokens enclose those of `f`. -/
def IsTokParent (po : Int → Bool) (es : List Ev) (f : Ev) (p : Int) : Prop :=
  (p = -1 ∧ ∀ c ∈ es, ¬ TokEncl po c f) ∨
  (∃ a ∈ es, p = a.idx ∧ TokEncl po a f ∧ ∀ c ∈ es, TokEncl po c f → c = a ∨ TokEncl po c a)

theorem parent_is_innermost_tok (wf : WF es) (hperm : S.Perm (tokens es)) (hs : S.Pairwise (tokLt po))
    (hf : f ∈ es) (hent : (f.idx, p, d) ∈ build S) : IsTokParent po es f p := by
  obtain ⟨stk, hsorted, hmem, rfl, _⟩ := entry_stack wf hperm hs hf hent
  cases stk with
  | nil => exact Or.inl ⟨rfl, fun c hc h => List.not_mem_nil ((hmem (openTok c)).mpr ⟨c, hc, rfl, h⟩)⟩
  | cons x rest =>
    obtain ⟨a, ha, rfl, hta⟩ := (hmem x).mp List.mem_cons_self
    refine Or.inr ⟨a, ha, rfl, hta, fun c hc htc => ?_⟩
    rcases List.mem_cons.mp ((hmem (openTok c)).mpr ⟨c, hc, rfl, htc⟩) with h1 | h1
    · exact Or.inl (openTok_inj h1)
    · have hlt : tokLt po (openTok c) (openTok a) := List.rel_of_pairwise_cons hsorted h1
      exact Or.inr ⟨hlt, closes_nested wf hc ha hlt
        (tokLt_trans hta.1 (tokLt_trans (open_lt_close po (wf.durNonneg f hf)) htc.2))⟩

theorem parent_contains (wf : WF es) (hperm : S.Perm (tokens es)) (hs : S.Pairwise (tokLt po))
    (hf : f ∈ es) (hent : (f.idx, p, d) ∈ build S) :
    p = -1 ∨ ∃ a ∈ es, p = a.idx ∧ a.ts ≤ f.ts ∧ f.ts + f.dur ≤ a.ts + a.dur :=
  (parent_is_innermost_tok wf hperm hs hf hent).imp And.left fun ⟨a, ha, hp, hta, _⟩ =>
    ⟨a, ha, hp, tokLt_time hta.1, tokLt_time hta.2⟩

end

/-! ### the executable model's sort, and what the graph model (C08, C10) uses of it -/

theorem tokens_nodup {es : List Ev} (wf : WF es) : (tokens es).Nodup :=
  List.nodup_append.mpr ⟨wf.nodup.map openTok fun _ _ => mt openTok_inj,
    wf.nodup.map closeTok fun _ _ => mt closeTok_inj,
    List.forall_mem_map.mpr fun e _ => List.forall_mem_map.mpr fun f _ => open_ne_close e f⟩

theorem sortToks_spec (po : Int → Bool) {es : List Ev} (wf : WF es) :
    (sortToks po (tokens es)).Perm (tokens es) ∧ (sortToks po (tokens es)).Pairwise (tokLt po) :=
  ⟨List.mergeSort_perm _ _,
   pairwise_mergeSort_of_strict (lt := tokLt po) (fun _ _ => tokLt_asymm) (fun _ _ _ => keyLt_negtrans) (tokens_nodup wf)
     (fun a ha b hb => tokLt_total po (tokens_ok wf.durNonneg a ha) (tokens_ok wf.durNonneg b hb))⟩

theorem mem_sortToks (po : Int → Bool) {es : List Ev} {t : Tok} :
    t ∈ sortToks po (tokens es) ↔ ∃ e ∈ es, t = openTok e ∨ t = closeTok e :=
  (List.mergeSort_perm _ _).mem_iff.trans mem_tokens

theorem forall_sortToks (po : Int → Bool) {es : List Ev} {P : Tok → Prop}
    (h : ∀ e ∈ es, P (openTok e) ∧ P (closeTok e)) : ∀ t ∈ sortToks po (tokens es), P t := by
  intro t ht
  obtain ⟨e, he, rfl | rfl⟩ := (mem_sortToks po).mp ht
  · exact (h e he).1
  · exact (h e he).2

theorem TokEncl.around {po : Int → Bool} {a f : Ev} (h : TokEncl po a f) (hd : 0 ≤ f.dur) {t : Tok}
    (ht : t = openTok f ∨ t = closeTok f) : tokLt po (openTok a) t ∧ tokLt po t (closeTok a) := by
  rcases ht with rfl | rfl
  · exact ⟨h.1, tokLt_trans (open_lt_close po hd) h.2⟩
  · exact ⟨tokLt_trans h.1 (open_lt_close po hd), h.2⟩

/-- A non-negative parent that `run` records for `f` is the id of an event whose tokens enclose `f`'s (the root is −1). -/
theorem run_parent_tokEncl {es : List Ev} (wf : WF es) {f : Ev} (hf : f ∈ es)
    (hp : 0 ≤ (((run es).find? fun e => e.1 == f.idx).map (·.2.1)).getD (-1)) :
    ∃ a ∈ es, a.idx = (((run es).find? fun e => e.1 == f.idx).map (·.2.1)).getD (-1) ∧ TokEncl (hasPO es) a f := by
  have root : ¬ (0 : Int) ≤ -1 := by decide
  obtain ⟨hperm, hs⟩ := sortToks_spec (hasPO es) wf
  rcases find?_key_cases Prod.fst f.idx (run es) with ⟨⟨i, p, d⟩, hmem, rfl, e⟩ | ⟨_, e⟩
  · rw [e] at hp ⊢
    rcases parent_is_innermost_tok wf hperm hs hf hmem with ⟨rfl, _⟩ | ⟨a, ha, rfl, hta, _⟩
    · exact absurd hp root
    · exact ⟨a, ha, rfl, hta⟩
  · rw [e] at hp
    exact absurd hp root

end Hta.C03
