import HtaVerif.Proofs.C08
import HtaVerif.Proofs.ListLemmas
/-!
The kernel loop of C08 (`kernelStep` / `kernelRun` over `kernelRows`): `KEmits` lists the shapes of what a step can
emit, `KStepOK` says what a step may return, `KInv` what the loop's two tables stand for, `kkey` is the key by which
its rows are ordered.
-/
namespace Hta.C08

/-- The rows the kernel loop treats as device activities: all but the synchronisation records. -/
def isK (r : Row) : Bool := r.cat != "cuda_sync"

theorem isK_eq_true_iff {r : Row} : isK r = true ↔ ¬ (r.cat == "cuda_sync") = true := Bool.not_eq

theorem isK_eq_false_iff {r : Row} : isK r = false ↔ (r.cat == "cuda_sync") = true := .of_eq (Bool.not_eq_false' _)

/-- `a` is the device activity processed most recently on stream `s`, in the list `done` of the rows
processed so far (most recent first). -/
def LastOnStream (done : List Row) (s : Int) (a : Row) : Prop :=
  ∃ l1 l2, done = l1 ++ a :: l2 ∧ isK a = true ∧ a.stream = s ∧ ∀ x ∈ l1, isK x = true → x.stream ≠ s

theorem LastOnStream.cons {done : List Row} {s : Int} {a : Row} (r : Row) (h : LastOnStream done s a)
    (hr : isK r = true → r.stream ≠ s) : LastOnStream (r :: done) s a := by
  obtain ⟨l1, l2, rfl, hk, hs, hno⟩ := h
  exact ⟨r :: l1, l2, rfl, hk, hs, fun x hx => (List.mem_cons.mp hx).elim (fun e => e ▸ hr) (hno x)⟩

theorem ksEndOf_some {clipped : List Row} {ks : KSync} {i : Int} {n : NodeId}
    (h : ksEndOf clipped ks i = some n) :
    ∃ s, ksGet ks i = some (some s) ∧ hasNodeIn clipped s = true ∧ n = ⟨s, false⟩ := by
  unfold ksEndOf at h
  split at h
  · next s hs =>
    split at h
    · next hn => exact ⟨s, hs, hn, (Option.some.inj h).symm⟩
    · cases h
  · cases h

/-- Everything the kernel loop can emit for row `r` in state `st`, each shape with conditions necessary for it:
`evsync` for an Event Sync, `sync` for a Stream / Context Sync (one per awaited entry of `last`); for a device activity
its own `span`, `gsync` the dependency scheduled by an earlier Stream Wait Event, `launch` a launch-delay edge (plain or
zero-weight), `kk` the edge from the last activity of its stream. -/
inductive KEmits (rows clipped : List Row) (ws : Waits) (st : KState) (r : Row) : Desc → Prop
  | evsync : r.name = "Event Sync" →
      hasNodeIn clipped (linkOf rows (syncPrev rows ws r)) = true → hasNodeIn clipped r.link = true →
      KEmits rows clipped ws st r ⟨⟨linkOf rows (syncPrev rows ws r), false⟩, ⟨r.link, false⟩, .sync, false, -1⟩
  | sync (s : Int) (n : NodeId) : isK r = false → (s, n) ∈ st.last →
      (r.name = "Context Sync" ∨ (r.name = "Stream Sync" ∧ s = r.stream)) → hasNodeIn clipped r.link = true →
      KEmits rows clipped ws st r ⟨n, ⟨r.link, false⟩, .sync, false, -1⟩
  | span : isK r = true → KEmits rows clipped ws st r ⟨⟨r.idx, true⟩, ⟨r.idx, false⟩, .op, false, -1⟩
  | gsync (s : Int) : isK r = true → ksGet st.ksync r.idx = some (some s) → hasNodeIn clipped s = true →
      KEmits rows clipped ws st r ⟨⟨s, false⟩, ⟨r.idx, true⟩, .sync, false, -1⟩
  | launch (z : Bool) : isK r = true → hasNodeIn clipped r.link = true →
      KEmits rows clipped ws st r ⟨⟨r.link, true⟩, ⟨r.idx, true⟩, .launch, z, -1⟩
  | kk (n : NodeId) : isK r = true → lastOn st.last r.stream = some n →
      KEmits rows clipped ws st r ⟨n, ⟨r.idx, true⟩, .kk, false, -1⟩

/-- What the kernel loop's two tables stand for after the rows `done` (most recent first): an entry of `last` is the
end node of the device activity processed most recently on its stream; a pending dependency `i ↦ s` of `ksync` was
scheduled by an earlier Stream Wait Event whose next launch starts `i` and whose event stands for `s`. Only this
direction: not that every stream with an activity has an entry, nor that every such record left a dependency. -/
structure KInv (rows : List Row) (ws : Waits) (done : List Row) (st : KState) : Prop where
  nodup : (st.last.map (·.1)).Nodup
  last : ∀ s n, (s, n) ∈ st.last → ∃ a, LastOnStream done s a ∧ n = ⟨a.idx, false⟩
  pend : ∀ i s, (i, some s) ∈ st.ksync → ∃ w ∈ done, w.name = "Stream Wait Event" ∧
    ∃ nl, nextLaunch rows w.link = some nl ∧ i = linkOf rows nl ∧ s = linkOf rows (syncPrev rows ws w)

theorem KInv.last_mem {rows : List Row} {ws : Waits} {done : List Row} {st : KState} (inv : KInv rows ws done st)
    {s : Int} {n : NodeId} (h : (s, n) ∈ st.last) :
    ∃ a ∈ done, isK a = true ∧ a.stream = s ∧ n = ⟨a.idx, false⟩ := by
  obtain ⟨a, ⟨l1, l2, rfl, hk, hs, _⟩, hn⟩ := inv.last s n h
  exact ⟨a, by simp, hk, hs, hn⟩

/-- What a step of the kernel loop at row `r` in state `st` may return: the new `last` table, where a new pending
dependency comes from, and the shapes of what is emitted. A predicate of the result `o`, so that the body of a step
function stands in the goal once and `KStepOK.ite` can take it apart. -/
structure KStepOK (rows clipped : List Row) (ws : Waits) (st : KState) (r : Row) (o : KState × List Desc) : Prop where
  last : o.1.last = if isK r then setLast st.last r.stream ⟨r.idx, false⟩ else st.last
  pend : ∀ i s, (i, some s) ∈ o.1.ksync → (i, some s) ∈ st.ksync ∨
    r.name = "Stream Wait Event" ∧ ∃ nl, nextLaunch rows r.link = some nl ∧
      i = linkOf rows nl ∧ s = linkOf rows (syncPrev rows ws r)
  emits : ∀ d ∈ o.2, KEmits rows clipped ws st r d

section
variable {rows clipped : List Row} {ws : Waits} {st : KState} {r : Row}

theorem KStepOK.keep (hk : isK r = false) {ds : List Desc} (h : ∀ d ∈ ds, KEmits rows clipped ws st r d) :
    KStepOK rows clipped ws st r (st, ds) :=
  ⟨by rw [hk]; rfl, fun _ _ h => .inl h, h⟩

theorem KStepOK.idle (hk : isK r = false) : KStepOK rows clipped ws st r (st, []) :=
  .keep hk fun _ h => nomatch h

/-- The case principle by which the two proofs below follow the `if`s of the step functions (`split` on the unfolded
`kernelStep` is slow). -/
theorem KStepOK.ite {c : Prop} [Decidable c] {a b : KState × List Desc}
    (ha : c → KStepOK rows clipped ws st r a) (hb : ¬ c → KStepOK rows clipped ws st r b) :
    KStepOK rows clipped ws st r (if c then a else b) := by
  split
  · exact ha ‹_›
  · exact hb ‹_›

theorem KStepOK.kinv {done : List Row} {o : KState × List Desc} (ok : KStepOK rows clipped ws st r o)
    (inv : KInv rows ws done st) : KInv rows ws (r :: done) o.1 := by
  refine ⟨?_, ?_, ?_⟩
  · rw [ok.last]
    split
    · exact setLast_nodup _ _ _ inv.nodup
    · exact inv.nodup
  · intro s n h
    rw [ok.last] at h
    split at h
    · next hk =>
      rcases mem_assocSet h with h | ⟨h, hne⟩
      · obtain ⟨rfl, rfl⟩ := Prod.mk.inj h
        exact ⟨r, ⟨[], done, rfl, hk, rfl, fun _ h => nomatch h⟩, rfl⟩
      · obtain ⟨a, ha, hn⟩ := inv.last s n h
        exact ⟨a, ha.cons r fun _ e => hne e.symm, hn⟩
    · next hk =>
      obtain ⟨a, ha, hn⟩ := inv.last s n h
      exact ⟨a, ha.cons r fun h => absurd h hk, hn⟩
  · intro i s h
    rcases ok.pend i s h with h | ⟨hn, nl, h⟩
    · obtain ⟨w, hw, h⟩ := inv.pend i s h
      exact ⟨w, List.mem_cons_of_mem _ hw, h⟩
    · exact ⟨r, List.mem_cons_self, hn, nl, h⟩

theorem eventStep_spec (hk : isK r = false) (hname : r.name = "Stream Wait Event" ∨ r.name = "Event Sync") :
    KStepOK rows clipped ws st r (eventStep rows clipped ws st r) := by
  unfold eventStep
  refine .ite (fun _ => .idle hk) fun _ => .ite (fun hn => ?_) fun hn => .ite (fun h => ?_) fun _ => .idle hk
  · cases hnl : nextLaunch rows r.link with
    | none => exact .idle hk
    | some nl =>
      refine .ite (fun _ => .idle hk) fun _ => .ite (fun _ => .idle hk) fun _ =>
        ⟨by rw [hk]; rfl, fun i s h => ?_, fun _ h => nomatch h⟩
      rcases mem_assocSet h with h | h
      · exact .inr ⟨beq_iff_eq.mp hn, nl, hnl, (Prod.mk.inj h).1, Option.some.inj (Prod.mk.inj h).2⟩
      · exact .inl h.1
  · rw [Bool.and_eq_true] at h
    exact .keep hk (List.forall_mem_singleton.mpr (.evsync (hname.resolve_left (mt beq_iff_eq.mpr hn)) h.1 h.2))

end

/-- The one place where `kernelStep` is unfolded. -/
theorem kernelStep_spec (rows clipped : List Row) (ws : Waits) (q : Int → Option Int) (zl : Bool)
    (st : KState) (r : Row) : KStepOK rows clipped ws st r (kernelStep rows clipped ws q zl st r) := by
  unfold kernelStep
  refine .ite (fun hcat => ?_) fun hcat => ?_
  · have hk : isK r = false := isK_eq_false_iff.mpr hcat
    refine .ite (fun hev => eventStep_spec hk (by simpa using hev)) fun _ =>
      .ite (fun hcond => .keep hk fun d hd => ?_) fun _ => .idle hk
    simp only [Bool.and_eq_true, Bool.or_eq_true, beq_iff_eq] at hcond
    obtain ⟨n, hn, rfl⟩ := List.mem_map.mp hd
    rcases mem_ite_cases hn with ⟨hctx, hn⟩ | ⟨hctx, hn⟩
    · obtain ⟨x, hx, rfl⟩ := List.mem_map.mp hn
      exact .sync x.1 x.2 hk hx (.inl (beq_iff_eq.mp hctx)) hcond.2
    · exact .sync r.stream n hk (assocGet_mem (Option.mem_toList.mp hn))
        (.inr ⟨hcond.1.resolve_right (mt beq_iff_eq.mpr hctx), rfl⟩) hcond.2
  · have hk : isK r = true := isK_eq_true_iff.mpr hcat
    refine ⟨(if_pos hk).symm, fun i s h => .inl ?_, fun d hd => ?_⟩
    · simp only at h
      split at h
      · -- the step writes `none` at `r.idx`: a pending `some s` was there before
        exact ((mem_assocSet h).resolve_left (by simp)).1
      · exact h
    · -- the emitted list is `span ++ gsync ++ delay ++ zl`
      simp only [List.mem_append, List.mem_singleton, List.mem_ite_nil_right] at hd
      rcases hd with ((rfl | hd) | hd) | ⟨hc, rfl⟩
      · exact .span hk
      · obtain ⟨n, hke, rfl⟩ := mem_span hd
        obtain ⟨s, hs, hn, rfl⟩ := ksEndOf_some hke
        exact .gsync s hk hs hn
      · rcases mem_ite_cases hd with ⟨hc, hd⟩ | ⟨_, hd⟩
        · rw [List.mem_singleton.mp hd]
          exact .launch false hk ((Bool.and_eq_true _ _).mp hc).2
        · split at hd
          · next n hl =>
            rw [List.mem_singleton.mp (List.mem_ite_nil_right.mp hd).2]
            exact .kk n hk hl
          · cases hd
      · exact .launch true hk ((Bool.and_eq_true _ _).mp hc).2

/-- What `_construct_graph_from_kernels` emits: every descriptor has one of the shapes of `KEmits` at some row `r`
of the processing order, in a state whose tables satisfy `KInv` for the rows before `r`. -/
theorem kernelRun_emits (rows clipped : List Row) (ws : Waits) (q : Int → Option Int) (zl : Bool) (ks : List Row) :
    ∀ d ∈ kernelRun rows clipped ws q zl ⟨[], []⟩ ks, ∃ pre r post st,
      ks = pre ++ r :: post ∧ KInv rows ws pre.reverse st ∧ KEmits rows clipped ws st r d := by
  intro d hd
  obtain ⟨pre, r, post, st, hsplit, inv, hd⟩ :=
    mem_run (kernelStep rows clipped ws q zl) (kernelRun rows clipped ws q zl) (fun _ => kernelRun.eq_1 ..) (fun _ _ _ => kernelRun.eq_2 ..)
      (fun done _ st => KInv rows ws done.reverse st)
      (fun done r _ st inv => by
        rw [List.reverse_append]
        exact (kernelStep_spec rows clipped ws q zl st r).kinv inv)
      ks [] ⟨[], []⟩ ⟨List.nodup_nil, fun _ _ h => (nomatch h), fun _ _ h => nomatch h⟩ d hd
  exact ⟨pre, r, post, st, hsplit, inv, (kernelStep_spec rows clipped ws q zl st r).emits d hd⟩

theorem kernelRun_op_row (rows clipped : List Row) (ws : Waits) (q : Int → Option Int) (zl : Bool) (ks : List Row) :
    ∀ d ∈ kernelRun rows clipped ws q zl ⟨[], []⟩ ks, d.ty = .op →
      ∃ r ∈ ks, d = ⟨⟨r.idx, true⟩, ⟨r.idx, false⟩, .op, false, -1⟩ := by
  intro d hd hty
  obtain ⟨pre, r, post, st, rfl, _, he⟩ := kernelRun_emits rows clipped ws q zl ks d hd
  cases he with
  | span _ => exact ⟨r, List.mem_append_cons_self, rfl⟩
  | _ => cases hty

theorem kernelRun_nodes (rows clipped : List Row) (ws : Waits) (q : Int → Option Int) (zl : Bool) (ks : List Row)
    (hrows : ∀ r ∈ ks, isK r = true → hasNodeIn clipped r.idx = true) :
    ∀ d ∈ kernelRun rows clipped ws q zl ⟨[], []⟩ ks,
      hasNodeIn clipped d.src.ev = true ∧ hasNodeIn clipped d.dst.ev = true := by
  intro d hd
  obtain ⟨pre, r, post, st, rfl, inv, he⟩ := kernelRun_emits rows clipped ws q zl ks d hd
  have hr := hrows r List.mem_append_cons_self
  have hlast : ∀ s n, (s, n) ∈ st.last → hasNodeIn clipped n.ev = true := by
    intro s n h
    obtain ⟨a, ha, hka, _, rfl⟩ := inv.last_mem h
    exact hrows a (List.mem_append_left _ (List.mem_reverse.mp ha)) hka
  cases he with
  | evsync _ h1 h2 => exact ⟨h1, h2⟩
  | sync s n _ hm _ h2 => exact ⟨hlast s n hm, h2⟩
  | span hk => exact ⟨hr hk, hr hk⟩
  | gsync s hk _ hn => exact ⟨hn, hr hk⟩
  | launch z hk hn => exact ⟨hn, hr hk⟩
  | kk n hk hl => exact ⟨hlast _ n (assocGet_mem hl), hr hk⟩

/-- The key of `gpu_kernels.sort_values(by=["sort_by", "end_ts", "ts_runtime"])`: a synchronisation record counts
with its end, everything else with its start. `kkey` and `kle` name the key and the comparator that `kernelRows` in the
model file writes inline (`kernelRows_eq`, by `rfl`). -/
def kkey (rows : List Row) (r : Row) : Int × Int × Int :=
  (if r.cat == "cuda_sync" then r.ts + r.dur else r.ts, r.ts + r.dur, ((findRow rows r.link).map (·.ts)).getD 0)

theorem kkey_k {rows : List Row} {r : Row} (h : isK r = true) : (kkey rows r).1 = r.ts :=
  if_neg (isK_eq_true_iff.mp h)

theorem kkey_s {rows : List Row} {r : Row} (h : isK r = false) : (kkey rows r).1 = r.ts + r.dur :=
  if_pos (isK_eq_false_iff.mp h)

def kle (rows : List Row) (a b : Row) : Bool :=
  let ka := kkey rows a
  let kb := kkey rows b
  decide (ka.1 < kb.1) || (ka.1 == kb.1 && (decide (ka.2.1 < kb.2.1) || (ka.2.1 == kb.2.1 && decide (ka.2.2 ≤ kb.2.2))))

theorem kernelRows_eq (rows clipped : List Row) :
    kernelRows rows clipped = (clipped.filter fun r =>
      (r.stream != -1 || r.name == "Event Sync" || r.name == "Context Sync") && decide (r.link ≥ 0)).mergeSort (kle rows) := rfl

/-- `kle` is the lexicographic `≤` of the keys, in the nested form `lex_trans` / `lex_total` speak of. -/
theorem kle_iff {rows : List Row} {a b : Row} : kle rows a b = true ↔
    (kkey rows a).1 < (kkey rows b).1 ∨ ((kkey rows a).1 = (kkey rows b).1 ∧
      ((kkey rows a).2.1 < (kkey rows b).2.1 ∨
        ((kkey rows a).2.1 = (kkey rows b).2.1 ∧ (kkey rows a).2.2 ≤ (kkey rows b).2.2))) := by
  simp only [kle, Bool.or_eq_true, Bool.and_eq_true, decide_eq_true_eq, beq_iff_eq]

theorem kle_keys {rows : List Row} {a b : Row} (h : kle rows a b = true) :
    (kkey rows a).1 < (kkey rows b).1 ∨ ((kkey rows a).1 = (kkey rows b).1 ∧ a.ts + a.dur ≤ b.ts + b.dur) :=
  (kle_iff.mp h).imp_right (And.imp_right fun h => h.elim Int.le_of_lt fun h => Int.le_of_eq h.1)

theorem kle_trans (rows : List Row) (a b c : Row) (h1 : kle rows a b = true) (h2 : kle rows b c = true) :
    kle rows a c = true :=
  kle_iff.mpr (lex_trans (kle_iff.mp h1) (kle_iff.mp h2) fun h1 h2 => lex_trans h1 h2 Int.le_trans)

theorem kle_total (rows : List Row) (a b : Row) : (kle rows a b || kle rows b a) = true := by
  rw [Bool.or_eq_true, kle_iff, kle_iff]
  -- `lex_total` has a middle case for keys that are equal throughout; for `≤` at the last level it is empty
  exact (lex_total (lex_total (E := False) ((Int.le_total _ _).imp_right .inr))).imp_right fun h => h.resolve_left fun h => h.2.2

theorem kernelRows_distinct (rows clipped : List Row) (h : clipped.Pairwise fun a b => a.idx ≠ b.idx) :
    (kernelRows rows clipped).Pairwise fun a b => a.idx ≠ b.idx := by
  rw [kernelRows_eq]
  exact (List.mergeSort_perm _ _).symm.pairwise (h.filter _) fun hab e => hab e.symm

theorem kernelRows_hasNode (rows clipped : List Row)
    (hids : ∀ r ∈ clipped, findRow clipped r.idx = some r)
    (hnames : ∀ r ∈ clipped, (r.name == "Event Sync" || r.name == "Context Sync") = true → (r.cat == "cuda_sync") = true) :
    ∀ r ∈ kernelRows rows clipped, isK r = true → hasNodeIn clipped r.idx = true := by
  intro r hr hk
  obtain ⟨hmem, hcond⟩ := List.mem_filter.mp (List.mem_mergeSort.mp hr)
  -- a row named like a synchronisation record would carry the synchronisation category
  rw [Bool.or_assoc, Bool.eq_false_iff.mpr (mt (hnames r hmem) (isK_eq_true_iff.mp hk)), Bool.or_false] at hcond
  rw [hasNodeIn, hids r hmem, Option.map_some, Option.getD_some, hasNode, hcond, Bool.or_true]

theorem lastIdx_cases {α : Type} (p : α → Bool) (l : List α) (i : Nat) (acc : Option Nat) :
    (lastIdx p l i acc = acc ∧ ∀ x ∈ l, p x = false) ∨
    ∃ k x, l[k]? = some x ∧ p x = true ∧ lastIdx p l i acc = some (i + k) ∧ ∀ y ∈ l.drop (k + 1), p y = false := by
  induction l generalizing i acc with
  | nil => exact .inl ⟨rfl, List.forall_mem_nil _⟩
  | cons a as ih =>
    rw [lastIdx]
    rcases ih (i + 1) (if p a then some i else acc) with ⟨h, hall⟩ | ⟨k, x, hk, hx, h, hpost⟩
    · cases hpa : p a <;> rw [hpa] at h
      · exact .inl ⟨h, List.forall_mem_cons.mpr ⟨hpa, hall⟩⟩
      · exact .inr ⟨0, a, rfl, hpa, h, hall⟩
    · exact .inr ⟨k + 1, x, hk, hx, h.trans (congrArg some (Nat.add_right_comm i 1 k)), hpost⟩

end Hta.C08
