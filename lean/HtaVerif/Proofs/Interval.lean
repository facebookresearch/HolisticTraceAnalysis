import HtaVerif.Model.Interval
import HtaVerif.Proofs.ListLemmas

/-! Measure of interval unions on unit cells, and the two algorithms that compute it.

`cells` is a sum of indicators (`cells_eq_sumOver`), so pointwise linear identities lift to it.
The property theorems use `mergeSorted` only through `MergeFacts`, and the marker sweep only through
`sweep_eq_cells`. -/

namespace Hta

/-- `Σ f t` over `lo ≤ t < lo + n`. -/
def sumOver (lo : Int) : Nat → (Int → Nat) → Nat
  | 0, _ => 0
  | n + 1, f => f lo + sumOver (lo + 1) n f

theorem sumOver_congr {lo : Int} {n : Nat} {f g : Int → Nat}
    (h : ∀ t, lo ≤ t → t < lo + n → f t = g t) : sumOver lo n f = sumOver lo n g := by
  induction n generalizing lo with
  | zero => rfl
  | succ n ih =>
    simp only [sumOver]
    rw [h lo (Int.le_refl _) (by omega), ih (fun t h1 h2 => h t (Int.le_of_lt h1) (by omega))]

theorem sumOver_add (lo : Int) (n : Nat) (f g : Int → Nat) :
    sumOver lo n (fun t => f t + g t) = sumOver lo n f + sumOver lo n g := by
  induction n generalizing lo with
  | zero => rfl
  | succ n ih => simp only [sumOver, ih]; exact Nat.add_add_add_comm ..

theorem sumOver_const (lo : Int) (n c : Nat) : sumOver lo n (fun _ => c) = n * c := by
  induction n generalizing lo with
  | zero => simp [sumOver]
  | succ n ih => simp only [sumOver, ih, Nat.succ_mul]; omega

theorem cells_eq_sumOver (lo : Int) (n : Nat) (p : Int → Bool) :
    cells lo n p = sumOver lo n (fun t => (p t).toNat) := by
  induction n generalizing lo with
  | zero => rfl
  | succ n ih => simp only [cells, sumOver, ih]; cases p lo <;> rfl

theorem cells_congr {lo : Int} {n : Nat} {p q : Int → Bool}
    (h : ∀ t, lo ≤ t → t < lo + n → p t = q t) : cells lo n p = cells lo n q := by
  simp only [cells_eq_sumOver]
  exact sumOver_congr fun t h1 h2 => by rw [h t h1 h2]

theorem cells_true {lo : Int} {n : Nat} {p : Int → Bool}
    (h : ∀ t, lo ≤ t → t < lo + n → p t = true) : cells lo n p = n := by
  rw [cells_congr (q := fun _ => true) h, cells_eq_sumOver, sumOver_const]; exact Nat.mul_one n

theorem cells_false {lo : Int} {n : Nat} {p : Int → Bool}
    (h : ∀ t, lo ≤ t → t < lo + n → p t = false) : cells lo n p = 0 := by
  rw [cells_congr (q := fun _ => false) h, cells_eq_sumOver, sumOver_const]; rfl

theorem cells_or_and (lo : Int) (n : Nat) (p q : Int → Bool) :
    cells lo n (fun t => p t || q t) + cells lo n (fun t => p t && q t)
      = cells lo n p + cells lo n q := by
  simp only [cells_eq_sumOver, ← sumOver_add]
  exact sumOver_congr fun t _ _ => by cases p t <;> cases q t <;> rfl

theorem cells_not (lo : Int) (n : Nat) (p : Int → Bool) :
    cells lo n p + cells lo n (fun t => !p t) = n := by
  simp only [cells_eq_sumOver, ← sumOver_add]
  rw [sumOver_congr (g := fun _ => 1) fun t _ _ => by cases p t <;> rfl, sumOver_const, Nat.mul_one]

theorem cells_le (lo : Int) (n : Nat) (p : Int → Bool) : cells lo n p ≤ n := by
  have := cells_not lo n p; omega

theorem cells_split_by (lo : Int) (n : Nat) (p q : Int → Bool) :
    cells lo n p = cells lo n (fun t => p t && q t) + cells lo n (fun t => p t && !q t) := by
  simp only [cells_eq_sumOver, ← sumOver_add]
  exact sumOver_congr fun t _ _ => by cases p t <;> cases q t <;> rfl

theorem cells_add (lo : Int) (m n : Nat) (p : Int → Bool) :
    cells lo (m + n) p = cells lo m p + cells (lo + m) n p := by
  induction m generalizing lo with
  | zero => rw [Nat.zero_add, cells, Nat.zero_add, Int.natCast_zero, Int.add_zero]
  | succ m ih =>
    rw [Nat.add_right_comm, cells, cells, ih (lo + 1), Nat.add_assoc, Int.natCast_succ,
      Int.add_comm m 1, Int.add_assoc]

/-- `[a, c) = [a, b) ++ [b, c)`, the lengths tied to the endpoints by equations. -/
theorem cells_split {a b c : Int} {i k n : Nat} (hab : a + i = b) (hbc : b + k = c) (hac : a + n = c)
    (p : Int → Bool) : cells a n p = cells a i p + cells b k p := by
  obtain rfl : n = i + k := Int.natCast_inj.mp <| Int.add_left_cancel (a := a) <| by
    rw [hac, Int.natCast_add, ← Int.add_assoc, hab, hbc]
  rw [cells_add, hab]

theorem cells_interval {lo : Int} {n : Nat} {a b : Int}
    (h1 : lo ≤ a) (h2 : a ≤ b) (h3 : b ≤ lo + n) :
    (cells lo n (fun t => decide (a ≤ t) && decide (t < b)) : Int) = b - a := by
  -- `[lo, lo+n) = [lo, a) ++ [a, b) ++ [b, lo+n)` with `a = lo + i`, `b = a + j`, `n = i + (j + k)`
  obtain ⟨i, rfl⟩ := Int.le.dest h1
  obtain ⟨j, rfl⟩ := Int.le.dest h2
  obtain ⟨k, rfl⟩ : ∃ k, n = i + (j + k) := ⟨n - (i + j), by omega⟩
  rw [cells_add, cells_add,
    cells_false fun t _ h => by rw [decide_eq_false (Int.not_le.mpr h)]; rfl,
    cells_true fun t h h' => by rw [decide_eq_true h, decide_eq_true h']; rfl,
    cells_false fun t h _ => by rw [decide_eq_false (Int.not_lt.mpr h), Bool.and_false]]
  omega

@[simp] theorem covers_nil (t : Int) : covers [] t = false := rfl

@[simp] theorem covers_cons (x : Iv) (l : List Iv) (t : Int) :
    covers (x :: l) t = ((decide (x.1 ≤ t) && decide (t < x.2)) || covers l t) :=
  List.any_cons

theorem covers_iff {l : List Iv} {t : Int} :
    covers l t = true ↔ ∃ x ∈ l, x.1 ≤ t ∧ t < x.2 := by
  simp only [covers, List.any_eq_true, Bool.and_eq_true, decide_eq_true_eq]

theorem covers_append (l₁ l₂ : List Iv) (t : Int) :
    covers (l₁ ++ l₂) t = (covers l₁ t || covers l₂ t) :=
  List.any_append

theorem covers_perm {l₁ l₂ : List Iv} (h : l₁.Perm l₂) (t : Int) :
    covers l₁ t = covers l₂ t :=
  h.any_eq

theorem covers_of_lt_starts {l : List Iv} {b t : Int} (h : ∀ y ∈ l, b ≤ y.1) (ht : t < b) :
    covers l t = false :=
  Bool.eq_false_iff.mpr fun hc => by
    obtain ⟨y, hy, h1, _⟩ := covers_iff.mp hc
    have := h y hy
    omega

/-! ### separated lists: measure of the union is the sum of the lengths -/

/-- Strictly separated, as `merge_kernel_intervals` produces. -/
def Separated (l : List Iv) : Prop := l.Pairwise fun x y => x.2 < y.1

theorem sumLen_eq_cells {l : List Iv} {lo : Int} {n : Nat} (hsep : Separated l)
    (hnn : ∀ x ∈ l, x.1 ≤ x.2)
    (hwin : ∀ x ∈ l, lo ≤ x.1 ∧ x.2 ≤ lo + n) :
    sumLen l = (cells lo n (covers l) : Int) := by
  induction l with
  | nil => rw [cells_false (p := covers []) fun _ _ _ => rfl]; rfl
  | cons x xs ih =>
    obtain ⟨hlt, hsep'⟩ := List.pairwise_cons.mp hsep
    obtain ⟨hx, hnn'⟩ := List.forall_mem_cons.mp hnn
    obtain ⟨hwx, hwin'⟩ := List.forall_mem_cons.mp hwin
    have hor : cells lo n (covers (x :: xs)) + _ = _ :=
      cells_or_and lo n (fun t => decide (x.1 ≤ t) && decide (t < x.2)) (covers xs)
    -- `x` ends before the rest starts, so the intersection is empty
    rw [cells_false (p := fun t => _ && covers xs t) fun t _ _ => by
      by_cases ht : t < x.2
      · rw [covers_of_lt_starts (fun y hy => Int.le_of_lt (hlt y hy)) ht]; exact Bool.and_false _
      · rw [decide_eq_false ht, Bool.and_false]; rfl] at hor
    rw [sumLen, ih hsep' hnn' hwin', ← cells_interval hwx.1 hx hwx.2, ← Int.natCast_add, ← hor]
    rfl

theorem mergeGo_start_ge (rest : List Iv) :
    ∀ (cs ce cm : Int), (∀ x ∈ rest, cs ≤ x.1) →
      ∀ y ∈ mergeGo cs ce cm rest, cs ≤ y.1 := by
  -- the loop changes `cs` (to `x.1` or `min cs x.1`), so the induction carries its own bound `b`
  suffices h : ∀ b cs ce cm, b ≤ cs → (∀ x ∈ rest, b ≤ x.1) →
      ∀ y ∈ mergeGo cs ce cm rest, b ≤ y.1 from fun cs ce cm => h cs cs ce cm (Int.le_refl _)
  induction rest with
  | nil =>
    intro b cs ce cm hb _ y hy
    rw [mergeGo, List.mem_singleton] at hy
    exact hy ▸ hb
  | cons x rest ih =>
    intro b cs ce cm hb hge y hy
    obtain ⟨hbx, hge'⟩ := List.forall_mem_cons.mp hge
    rw [mergeGo] at hy
    split at hy
    · rcases List.mem_cons.mp hy with h | h
      · exact h ▸ hb
      · exact ih b x.1 _ _ hbx hge' y h
    · exact ih b (min cs x.1) _ _ (Int.le_min.mpr ⟨hb, hbx⟩) hge' y hy

/-- `m` is a separated normal form of `s`, as `mergeSorted` computes (`mergeSorted_facts`). -/
structure MergeFacts (s m : List Iv) : Prop where
  covers_eq : ∀ t, covers m t = covers s t
  separated : Separated m
  nonneg : ∀ y ∈ m, y.1 ≤ y.2
  starts : ∀ y ∈ m, ∃ x ∈ s, x.1 = y.1
  ends : ∀ y ∈ m, ∃ x ∈ s, x.2 = y.2
  contains : ∀ x ∈ s, ∃ y ∈ m, y.1 ≤ x.1 ∧ x.2 ≤ y.2

theorem MergeFacts.nil : MergeFacts [] [] where
  covers_eq _ := rfl
  separated := .nil
  nonneg _ h := nomatch h
  starts _ h := nomatch h
  ends _ h := nomatch h
  contains _ h := nomatch h

theorem MergeFacts.of_mem_iff {s K m : List Iv} (f : MergeFacts s m) (h : ∀ x, x ∈ s ↔ x ∈ K) :
    MergeFacts K m where
  covers_eq t := by
    rw [f.covers_eq]; apply Bool.eq_iff_iff.mpr; simp only [covers_iff, h]
  separated := f.separated
  nonneg := f.nonneg
  starts y hy := by obtain ⟨x, hx, e⟩ := f.starts y hy; exact ⟨x, (h x).mp hx, e⟩
  ends y hy := by obtain ⟨x, hx, e⟩ := f.ends y hy; exact ⟨x, (h x).mp hx, e⟩
  contains x hx := f.contains x ((h x).mpr hx)

theorem MergeFacts.cons {c : Iv} {s m : List Iv} (f : MergeFacts s m) (hc : c.1 ≤ c.2)
    (hlt : ∀ x ∈ s, c.2 < x.1) : MergeFacts (c :: s) (c :: m) where
  covers_eq t := by rw [covers_cons, covers_cons, f.covers_eq]
  separated := List.pairwise_cons.mpr ⟨fun y hy =>
    let ⟨x, hx, e⟩ := f.starts y hy
    e ▸ hlt x hx, f.separated⟩
  nonneg := List.forall_mem_cons.mpr ⟨hc, f.nonneg⟩
  starts := forall_exists_mem_cons c rfl f.starts
  ends := forall_exists_mem_cons c rfl f.ends
  contains := forall_exists_mem_cons c ⟨Int.le_refl _, Int.le_refl _⟩ f.contains

theorem MergeFacts.absorb {a b : Int} {x : Iv} {rest m : List Iv}
    (f : MergeFacts ((a, max b x.2) :: rest) m) (h1 : a ≤ x.1) (h2 : x.1 ≤ b) :
    MergeFacts ((a, b) :: x :: rest) m where
  covers_eq t := by
    rw [f.covers_eq, covers_cons, covers_cons, covers_cons, ← Bool.or_assoc]
    refine congrArg (· || covers rest t) (Bool.eq_iff_iff.mpr ?_)
    simp only [Bool.or_eq_true, Bool.and_eq_true, decide_eq_true_eq]
    -- `[a, b) ∪ [x.1, x.2) = [a, max b x.2)`, as `a ≤ x.1 ≤ b`
    omega
  separated := f.separated
  nonneg := f.nonneg
  starts y hy := by
    obtain ⟨z, hz, e⟩ := f.starts y hy
    rcases List.mem_cons.mp hz with rfl | hz
    · exact ⟨(a, b), List.mem_cons_self, e⟩
    · exact ⟨z, by simp [hz], e⟩
  ends y hy := by
    obtain ⟨z, hz, e⟩ := f.ends y hy
    rcases List.mem_cons.mp hz with rfl | hz
    · rcases Int.le_total x.2 b with hc | hc
      · exact ⟨(a, b), List.mem_cons_self, Int.max_eq_left hc ▸ e⟩
      · exact ⟨x, by simp, Int.max_eq_right hc ▸ e⟩
    · exact ⟨z, by simp [hz], e⟩
  contains z hz := by
    obtain ⟨y, hy, e1, e2⟩ := f.contains _ List.mem_cons_self
    rcases List.mem_cons.mp hz with rfl | hz
    · exact ⟨y, hy, e1, Int.le_trans (Int.le_max_left ..) e2⟩
    rcases List.mem_cons.mp hz with rfl | hz
    · exact ⟨y, hy, Int.le_trans e1 h1, Int.le_trans (Int.le_max_right ..) e2⟩
    · exact f.contains z (List.mem_cons_of_mem _ hz)

/-- The loop invariant of `mergeGo`: `cm = ce`, the current group has `cs ≤ ce` and starts no
later than what is still to come. -/
theorem mergeGo_facts (rest : List Iv) : ∀ cs ce : Int, cs ≤ ce → (∀ x ∈ rest, cs ≤ x.1) →
    SortedByStart rest → (∀ x ∈ rest, x.1 ≤ x.2) →
    MergeFacts ((cs, ce) :: rest) (mergeGo cs ce ce rest) := by
  induction rest with
  | nil => intro cs ce h _ _ _; exact MergeFacts.nil.cons h fun _ h => nomatch h
  | cons x rest ih =>
    intro cs ce hce hge hsort hnn
    have hs := List.pairwise_cons.mp hsort
    obtain ⟨hx, hnn'⟩ := List.forall_mem_cons.mp hnn
    have hcx := hge x List.mem_cons_self
    simp only [mergeGo]
    split
    · next hgt =>
      rw [Int.max_eq_right (Int.le_trans (Int.le_of_lt hgt) hx)]
      exact (ih x.1 x.2 hx hs.1 hs.2 hnn').cons hce
        (List.forall_mem_cons.mpr ⟨hgt, fun z hz => Int.lt_of_lt_of_le hgt (hs.1 z hz)⟩)
    · next hle =>
      rw [Int.min_eq_left hcx]
      exact (ih cs (max ce x.2) (Int.le_trans hce (Int.le_max_left ..))
        (fun z hz => Int.le_trans hcx (hs.1 z hz)) hs.2 hnn').absorb hcx (Int.not_lt.mp hle)

/-- `merge_kernel_intervals` returns a separated normal form of its input `K`, whatever order `sort_values(by="ts")`
leaves ties in: `s` is any start-sorted permutation of `K`. -/
theorem mergeSorted_facts {s K : List Iv} (hp : s.Perm K) (hsort : SortedByStart s)
    (hnn : ∀ x ∈ K, x.1 ≤ x.2) : MergeFacts K (mergeSorted s) := by
  refine MergeFacts.of_mem_iff ?_ fun x => hp.mem_iff
  cases s with
  | nil => exact .nil
  | cons x rest =>
    have hs := List.pairwise_cons.mp hsort
    obtain ⟨hx, hnn'⟩ := List.forall_mem_cons.mp fun z hz => hnn z (hp.mem_iff.mp hz)
    exact mergeGo_facts rest x.1 x.2 hx hs.1 hs.2 hnn'

theorem MergeFacts.window {K m : List Iv} (f : MergeFacts K m) {lo hi : Int}
    (hwin : ∀ x ∈ K, lo ≤ x.1 ∧ x.2 ≤ hi) : ∀ y ∈ m, lo ≤ y.1 ∧ y.2 ≤ hi := fun y hy =>
  let ⟨a, ha, h1⟩ := f.starts y hy
  let ⟨b, hb, h2⟩ := f.ends y hy
  ⟨h1 ▸ (hwin a ha).1, h2 ▸ (hwin b hb).2⟩

theorem MergeFacts.sumLen_eq {K m : List Iv} (f : MergeFacts K m) {lo : Int} {n : Nat}
    (hwin : ∀ x ∈ K, lo ≤ x.1 ∧ x.2 ≤ lo + n) : sumLen m = (cells lo n (covers K) : Int) := by
  rw [sumLen_eq_cells f.separated f.nonneg (f.window hwin)]
  exact congrArg _ (cells_congr fun t _ _ => f.covers_eq t)

theorem MergeFacts.span {K m : List Iv} (f : MergeFacts K m) (hne : K ≠ []) :
    ∃ first last, m.head? = some first ∧ m.getLast? = some last ∧
      (∃ x ∈ K, x.1 = first.1) ∧ (∃ x ∈ K, x.2 = last.2) ∧
      ∀ x ∈ K, first.1 ≤ x.1 ∧ x.2 ≤ last.2 := by
  obtain ⟨k, hk⟩ := List.exists_mem_of_ne_nil K hne
  obtain ⟨y0, hy0, _⟩ := f.contains k hk
  cases m with
  | nil => cases hy0
  | cons first tl =>
    have hne' : first :: tl ≠ [] := List.cons_ne_nil _ _
    refine ⟨first, (first :: tl).getLast hne', rfl, List.getLast?_eq_some_getLast hne',
      f.starts _ List.mem_cons_self, f.ends _ (List.getLast_mem hne'), fun x hx => ?_⟩
    obtain ⟨y, hy, h1, h2⟩ := f.contains x hx
    -- `m` is separated, `first.1 ≤ first.2` and `last.1 ≤ last.2`
    constructor
    · rcases List.mem_cons.mp hy with rfl | h
      · exact h1
      · exact Int.le_trans (Int.le_trans (f.nonneg _ List.mem_cons_self)
          (Int.le_of_lt (List.rel_of_pairwise_cons f.separated h))) h1
    · rcases rel_getLast_of_pairwise f.separated hne' y hy with h | h
      · exact h ▸ h2
      · exact Int.le_trans h2 (Int.le_trans (Int.le_of_lt h) (f.nonneg _ (List.getLast_mem hne')))

/-! ### the step function of a marker list -/

/-- The state after the last marker (`stateAt_of_ge`). -/
def totalDelta : List Marker → Int
  | [] => 0
  | m :: ms => m.2 + totalDelta ms

theorem totalDelta_append (l₁ l₂ : List Marker) :
    totalDelta (l₁ ++ l₂) = totalDelta l₁ + totalDelta l₂ := by
  induction l₁ with
  | nil => simp [totalDelta]
  | cons m l ih => simp only [List.cons_append, totalDelta, ih, Int.add_assoc]

theorem totalDelta_perm {l₁ l₂ : List Marker} (h : l₁.Perm l₂) :
    totalDelta l₁ = totalDelta l₂ := by
  induction h with
  | nil => rfl
  | cons x _ ih => simp only [totalDelta, ih]
  | swap x y l => simp only [totalDelta]; omega
  | trans _ _ ih1 ih2 => rw [ih1, ih2]

theorem stateAt_eq_filter (l : List Marker) (t : Int) :
    stateAt l t = totalDelta (l.filter fun m => decide (m.1 ≤ t)) := by
  induction l with
  | nil => rfl
  | cons m l ih =>
    simp only [stateAt, List.filter_cons, ih]
    by_cases h : m.1 ≤ t <;> simp [h, totalDelta]

theorem stateAt_append (l₁ l₂ : List Marker) (t : Int) :
    stateAt (l₁ ++ l₂) t = stateAt l₁ t + stateAt l₂ t := by
  simp only [stateAt_eq_filter, List.filter_append, totalDelta_append]

theorem stateAt_perm {l₁ l₂ : List Marker} (h : l₁.Perm l₂) (t : Int) :
    stateAt l₁ t = stateAt l₂ t := by
  simp only [stateAt_eq_filter, totalDelta_perm (h.filter _)]

theorem stateAt_of_lt {l : List Marker} {t : Int} (h : ∀ x ∈ l, t < x.1) : stateAt l t = 0 := by
  rw [stateAt_eq_filter, List.filter_eq_nil_iff.mpr fun x hx => by simpa using h x hx]
  rfl

theorem stateAt_of_lt_head {m : Marker} {l : List Marker} {t : Int} (hs : SortedByTime (m :: l))
    (h : t < m.1) : stateAt (m :: l) t = 0 :=
  stateAt_of_lt (List.forall_mem_cons.mpr
    ⟨h, fun _ hx => Int.lt_of_lt_of_le h (List.rel_of_pairwise_cons hs hx)⟩)

theorem stateAt_of_ge {l : List Marker} {t : Int} (h : ∀ x ∈ l, x.1 ≤ t) :
    stateAt l t = totalDelta l := by
  rw [stateAt_eq_filter, List.filter_eq_self.mpr fun x hx => by simpa using h x hx]

theorem stateAt_between {p q : List Marker} {t : Int} (hp : ∀ y ∈ p, y.1 ≤ t)
    (hq : ∀ z ∈ q, t < z.1) : stateAt (p ++ q) t = totalDelta p := by
  rw [stateAt_append, stateAt_of_ge hp, stateAt_of_lt hq, Int.add_zero]

theorem stateAt_le_stateAt {l : List Marker} {s t : Int}
    (h1 : ∀ m ∈ l, m.1 ≤ s → t < m.1 → m.2 ≤ 0) (h2 : ∀ m ∈ l, s < m.1 → m.1 ≤ t → 0 ≤ m.2) :
    stateAt l s ≤ stateAt l t := by
  induction l with
  | nil => exact Int.le_refl _
  | cons m l ih =>
    obtain ⟨h1m, h1'⟩ := List.forall_mem_cons.mp h1
    obtain ⟨h2m, h2'⟩ := List.forall_mem_cons.mp h2
    refine Int.add_le_add ?_ (ih h1' h2')
    split <;> split <;> rename_i hs ht
    · exact Int.le_refl _
    · exact h1m hs (Int.not_le.mp ht)
    · exact h2m (Int.not_le.mp hs) ht
    · exact Int.le_refl _

theorem stateAt_pulse {a b : Int} (h : a ≤ b) (v : Int) (ms : List Marker) (t : Int) :
    stateAt ((a, v) :: (b, -v) :: ms) t = (if a ≤ t ∧ t < b then v else 0) + stateAt ms t := by
  simp only [stateAt, ← Int.add_assoc]
  congr 1
  by_cases h1 : a ≤ t
  · by_cases h2 : t < b
    · rw [if_pos h1, if_neg (Int.not_le.mpr h2), if_pos ⟨h1, h2⟩]; exact Int.add_zero v
    · rw [if_pos h1, if_pos (Int.not_lt.mp h2), if_neg fun h' => h2 h'.2]; exact Int.add_right_neg v
  · rw [if_neg h1, if_neg fun hb => h1 (Int.le_trans h hb), if_neg fun h' => h1 h'.1]; rfl

/-- `ms` are the markers of the step function `f`, within `[lo, hi]`: the hypothesis of `sweep_eq_cells`. -/
structure StepOf (ms : List Marker) (lo hi : Int) (f : Int → Int) : Prop where
  total : totalDelta ms = 0
  window : ∀ m ∈ ms, lo ≤ m.1 ∧ m.1 ≤ hi
  state : ∀ t, stateAt ms t = f t

theorem StepOf.nil (lo hi : Int) : StepOf [] lo hi fun _ => 0 :=
  ⟨rfl, fun _ h => (nomatch h), fun _ => rfl⟩

theorem StepOf.append {a b : List Marker} {lo hi : Int} {f g : Int → Int}
    (ha : StepOf a lo hi f) (hb : StepOf b lo hi g) : StepOf (a ++ b) lo hi fun t => f t + g t where
  total := by rw [totalDelta_append, ha.total, hb.total]; rfl
  window m hm := (List.mem_append.mp hm).elim (ha.window m) (hb.window m)
  state t := by rw [stateAt_append, ha.state, hb.state]

/-! ### the marker sweep -/

/-- The sweep from the first marker `m` on measures `{t | P (state at t)}` in `[m.1, hi)`, a window that holds all
markers. After the last marker `P` must fail, since the sweep gives the last row no weight. -/
theorem sweepFrom_eq_cells (P : Int → Bool) {hi : Int} (rest : List Marker) :
    ∀ (m : Marker) (acc : Int) (k : Nat), SortedByTime (m :: rest) → (∀ x ∈ m :: rest, x.1 ≤ hi) →
      m.1 + k = hi → P (acc + totalDelta (m :: rest)) = false →
      (cells m.1 k (fun t => P (acc + stateAt (m :: rest) t)) : Int) = sweepFrom P acc (m :: rest) := by
  induction rest with
  | nil =>
    intro m acc k _ _ _ hend
    rw [cells_false fun t h _ => by simpa [stateAt, totalDelta, h] using hend]
    rfl
  | cons m' rest ih =>
    intro m acc k hs hw hk hend
    obtain ⟨hge, hs'⟩ := List.pairwise_cons.mp hs
    have hw' := (List.forall_mem_cons.mp hw).2
    -- `[m.1, hi) = [m.1, m'.1) ++ [m'.1, hi)`
    obtain ⟨j, hj⟩ := Int.le.dest (hge m' List.mem_cons_self)
    obtain ⟨k', hk'⟩ := Int.le.dest (hw' m' List.mem_cons_self)
    rw [cells_split hj hk' hk, Int.natCast_add, sweepFrom,
      ← ih m' (acc + m.2) k' hs' hw' hk' (by simpa only [totalDelta, Int.add_assoc] using hend)]
    congr 1
    · -- on `[m.1, m'.1)` the state is `m.2`
      have hc : ∀ t, m.1 ≤ t → t < m.1 + j → P (acc + stateAt (m :: m' :: rest) t) = P (acc + m.2) :=
        fun t h1 h2 => by rw [stateAt, if_pos h1, stateAt_of_lt_head hs' (hj ▸ h2), Int.add_zero]
      cases hP : P (acc + m.2)
      · rw [cells_false fun t h1 h2 => (hc t h1 h2).trans hP]; rfl
      · rw [cells_true fun t h1 h2 => (hc t h1 h2).trans hP, if_pos rfl, ← hj, Int.add_comm, Int.add_sub_cancel]
    · exact congrArg _ (cells_congr fun t h1 _ => by
        rw [stateAt, if_pos (Int.le_trans (hge m' List.mem_cons_self) h1), Int.add_assoc])

/-- The marker sweep (`sort_values`, `cumsum`, `shift(-1)`) measures `{t | P (f t)}`, whatever order the sort
leaves simultaneous markers in: `ms` is any time-sorted permutation of the markers `ms'` of `f`. `P 0 = false`
because the last row, which HTA drops, has running sum 0. -/
theorem sweep_eq_cells (P : Int → Bool) (hP : P 0 = false) {ms ms' : List Marker} {lo : Int}
    {n : Nat} {f : Int → Int} (hperm : ms.Perm ms') (hs : SortedByTime ms)
    (h : StepOf ms' lo (lo + n) f) : sweep P ms = (cells lo n (fun t => P (f t)) : Int) := by
  rw [cells_congr (q := fun t => P (0 + stateAt ms t)) fun t _ _ => by
    rw [← h.state, stateAt_perm hperm, Int.zero_add]]
  cases ms with
  | nil => exact (congrArg _ (cells_false fun _ _ _ => hP)).symm
  | cons m rest =>
    have hw := fun x hx => h.window x (hperm.mem_iff.mp hx)
    -- `[lo, lo + n) = [lo, m.1) ++ [m.1, lo + n)`; before the first marker the state is 0
    obtain ⟨i, hm⟩ := Int.le.dest (hw m List.mem_cons_self).1
    obtain ⟨k, hk⟩ := Int.le.dest (hw m List.mem_cons_self).2
    rw [cells_split hm hk rfl, cells_false fun t _ h2 => by rw [stateAt_of_lt_head hs (hm ▸ h2)]; exact hP,
      Nat.zero_add, sweepFrom_eq_cells P rest m 0 k hs (fun x hx => (hw x hx).2) hk
        (by rw [totalDelta_perm hperm, h.total]; exact hP)]
    rfl

/-! ### markers of interval lists -/

theorem totalDelta_markersOf (v : Int) (l : List Iv) : totalDelta (markersOf v l) = 0 := by
  induction l with
  | nil => rfl
  | cons x l ih => simp only [markersOf, totalDelta, ih]; omega

theorem markersOf_window {v lo hi : Int} {l : List Iv} (h : ∀ x ∈ l, lo ≤ x.1 ∧ x.1 ≤ x.2 ∧ x.2 ≤ hi) :
    ∀ m ∈ markersOf v l, lo ≤ m.1 ∧ m.1 ≤ hi := by
  induction l with
  | nil => exact fun _ h => nomatch h
  | cons x l ih =>
    obtain ⟨hx, h'⟩ := List.forall_mem_cons.mp h
    exact List.forall_mem_cons.mpr ⟨⟨hx.1, Int.le_trans hx.2.1 hx.2.2⟩,
      List.forall_mem_cons.mpr ⟨⟨Int.le_trans hx.1 hx.2.1, hx.2.2⟩, ih h'⟩⟩

theorem stateAt_markersOf (v : Int) {l : List Iv} (hsep : Separated l)
    (hnn : ∀ x ∈ l, x.1 ≤ x.2) (t : Int) :
    stateAt (markersOf v l) t = if covers l t then v else 0 := by
  induction l with
  | nil => rfl
  | cons x l ih =>
    have hs := List.pairwise_cons.mp hsep
    obtain ⟨hx, hnn'⟩ := List.forall_mem_cons.mp hnn
    rw [markersOf, stateAt_pulse hx, ih hs.2 hnn', covers_cons]
    by_cases ht : t < x.2
    · -- the rest has not started
      rw [covers_of_lt_starts (fun y hy => Int.le_of_lt (hs.1 y hy)) ht, Bool.or_false]
      simp only [Bool.and_eq_true, decide_eq_true_eq, Bool.false_eq_true, if_false, Int.add_zero]
    · rw [if_neg fun h => ht h.2, decide_eq_false ht, Bool.and_false, Bool.false_or, Int.zero_add]

theorem MergeFacts.stepOf {K m : List Iv} (f : MergeFacts K m) {lo hi : Int}
    (hwin : ∀ x ∈ K, lo ≤ x.1 ∧ x.2 ≤ hi) (v : Int) :
    StepOf (markersOf v m) lo hi fun t => if covers K t then v else 0 where
  total := totalDelta_markersOf v m
  window := markersOf_window fun y hy =>
    have h := f.window hwin y hy
    ⟨h.1, f.nonneg y hy, h.2⟩
  state t := by rw [stateAt_markersOf v f.separated f.nonneg t, f.covers_eq t]

end Hta
