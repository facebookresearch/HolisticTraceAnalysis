import HtaVerif.Proofs.C08Walk
import HtaVerif.Proofs.C08Kernel
/-!
C10's two clauses about span edges: the event `_attribute_edge` picks for a span edge covers the edge's time range,
and it is an event of the thread (or stream) both nodes belong to. `Laminar` and `TokFacts` collect what the argument
needs from the order of a thread's sorted endpoint tokens, each fact relative to a split `toks = done ++ cur :: rest`,
and both follow from `C03.WF` (`TokFacts` also from the node times of the thread's events); `CovInv` is the invariant
of the walk from which the covering is read off.
-/
namespace Hta.C08
open C03 (Tok)

theorem time_le_of_mem_rest {cur : Tok} {rest : List Tok}
    (hs : (cur :: rest).Pairwise fun a b => a.time ≤ b.time) {e : Tok} (he : e ∈ rest) : cur.time ≤ e.time :=
  List.rel_of_pairwise_cons hs he

/-- The order of a properly nested thread's sorted endpoint tokens is laminar with respect to `parent`. -/
structure Laminar (toks : List Tok) (parent : Int → Int) : Prop where
  sorted : toks.Pairwise fun a b => a.time ≤ b.time
  openBeforeClose : ∀ done cur rest, toks = done ++ cur :: rest → cur.kind ≠ -1 →
    ∃ s ∈ done, s.idx = cur.idx ∧ s.kind = -1
  closeAfterOpen : ∀ done cur rest, toks = done ++ cur :: rest → cur.kind = -1 →
    ∃ e ∈ rest, e.idx = cur.idx ∧ e.kind ≠ -1
  parentOpen : ∀ done cur rest, toks = done ++ cur :: rest → 0 ≤ parent cur.idx →
    (∃ s ∈ done, s.idx = parent cur.idx ∧ s.kind = -1) ∧ (∃ e ∈ rest, e.idx = parent cur.idx ∧ e.kind ≠ -1)

def evStart (rows : List Row) (i : Int) : Int := tsOf rows ⟨i, true⟩
def evEnd (rows : List Row) (i : Int) : Int := tsOf rows ⟨i, false⟩

/-- Event `a` (unless the root, −1) spans the time range from node `src` to node `dst`. -/
def CoversRange (rows : List Row) (src dst : NodeId) (a : Int) : Prop :=
  0 ≤ a → evStart rows a ≤ tsOf rows src ∧ tsOf rows dst ≤ evEnd rows a

def CoverOK (rows : List Row) (d : Desc) : Prop :=
  CoversRange rows d.src d.dst (attrEv (mkEdge rows d.src d.dst d.ty d.zero) d.par)

/-- `_attribute_edge` on a span edge, as a case analysis: the source's event after a start node, the destination's
event between two end nodes, the recorded parent otherwise. -/
theorem attrEv_span {Q : Int → Prop} {rows : List Row} {src dst : NodeId} {ty : ETy} {z : Bool} {par : Int}
    (hty : ty = .op) (hs : src.isStart = true → Q src.ev)
    (hd : src.isStart = false → dst.isStart = false → Q dst.ev)
    (hp : src.isStart = false → dst.isStart = true → Q par) : Q (attrEv (mkEdge rows src dst ty z) par) := by
  subst hty
  unfold attrEv mkEdge
  cases h1 : src.isStart <;> cases h2 : dst.isStart
  · exact hd h1 h2
  · exact hp h1 h2
  · exact hs h1
  · exact hs h1

/-- The invariant of the walk behind the covering, after the tokens `done` and before `rest`: what the last node and
the recorded parent of the state guarantee about the events the next span edge can be attributed to. It constrains a
state with a last node only (`CovInv.of_none`). -/
structure CovInv (rows : List Row) (nodeEv : Int → Bool) (done rest : List Tok) (s : DS) : Prop where
  nodeLast : ∀ n, s.lastNode = some n → nodeEv n.ev = true
  openLast : ∀ a, s.lastNode = some ⟨a, true⟩ → ∃ e ∈ rest, e.idx = a ∧ e.kind ≠ -1
  startsBefore : ∀ c, s.lastNode = some ⟨c, false⟩ → ∀ x ∈ done, nodeEv x.idx = true → x.kind = -1 → x.time ≤ evEnd rows c
  parOK : ∀ c, s.lastNode = some ⟨c, false⟩ → 0 ≤ s.lastPar →
    evStart rows s.lastPar ≤ evEnd rows c ∧ ∃ e ∈ rest, e.idx = s.lastPar ∧ e.kind ≠ -1

theorem CovInv.of_none {rows : List Row} {nodeEv : Int → Bool} {done rest : List Tok} {s : DS}
    (h : s.lastNode = none) : CovInv rows nodeEv done rest s := by
  refine ⟨?_, ?_, ?_, ?_⟩ <;> (intro _ h'; rw [h] at h'; cases h')

structure TokFacts (rows : List Row) (toks : List Tok) (parent : Int → Int) : Prop where
  lam : Laminar toks parent
  kind : ∀ tk ∈ toks, tk.kind = -1 ∨ tk.kind = 1
  idx : ∀ tk ∈ toks, 0 ≤ tk.idx
  time : ∀ tk ∈ toks, tsOf rows ⟨tk.idx, tk.kind == -1⟩ = tk.time
  parentStart : ∀ tk ∈ toks, 0 ≤ parent tk.idx → evStart rows (parent tk.idx) ≤ evStart rows tk.idx

section facts
variable {rows : List Row} {toks : List Tok} {parent : Int → Int} (F : TokFacts rows toks parent) {tk : Tok}
include F

theorem TokFacts.time_open (h : tk ∈ toks) (hk : tk.kind = -1) : evStart rows tk.idx = tk.time := by
  rw [← F.time tk h, hk]; rfl

theorem TokFacts.time_close (h : tk ∈ toks) (hk : tk.kind ≠ -1) : evEnd rows tk.idx = tk.time := by
  rw [← F.time tk h, beq_false_of_ne hk]; rfl

end facts

section step
variable {rows : List Row} {nodeEv : Int → Bool} {parent : Int → Int} {done rest : List Tok} {t : Tok} {s : DS}
  (F : TokFacts rows (done ++ t :: rest) parent)
include F

/-- The current token's node is no later than the end of an event whose close token is still to come. -/
theorem TokFacts.le_close {a : Int} (h : ∃ e ∈ t :: rest, e.idx = a ∧ e.kind ≠ -1) :
    tsOf rows ⟨t.idx, t.kind == -1⟩ ≤ evEnd rows a := by
  obtain ⟨e, he, rfl, hk⟩ := h
  rw [F.time t (by simp), F.time_close (List.mem_append_right _ he) hk]
  rcases List.mem_cons.mp he with rfl | he
  · exact Int.le_refl _
  · exact time_le_of_mem_rest (List.pairwise_append.mp F.lam.sorted).2.1 he

/-- The event that `t` closes had started by any time that bounds the open tokens, of events with nodes, before `t`. -/
theorem TokFacts.started (hn : nodeEv t.idx = true) (hk : t.kind ≠ -1) {T : Int}
    (h : ∀ x ∈ done, nodeEv x.idx = true → x.kind = -1 → x.time ≤ T) : evStart rows t.idx ≤ T := by
  obtain ⟨s0, hs0, hs0i, hs0k⟩ := F.lam.openBeforeClose done t rest rfl hk
  rw [← hs0i, F.time_open (List.mem_append_left _ hs0) hs0k]
  exact h s0 hs0 (hs0i ▸ hn) hs0k

theorem CovInv.emits (inv : CovInv rows nodeEv done (t :: rest) s) (blocking : Int → Bool) :
    ∀ d ∈ (dfsStep nodeEv parent blocking s t).2, d.ty = .op → CoverOK rows d := by
  intro d hd hty
  obtain ⟨hn, ⟨_, _, _, rfl⟩ | ⟨⟨a, st⟩, z, hln, rfl⟩⟩ := (dfsStep_ok nodeEv parent blocking s t).emits d hd
  · cases hty
  refine attrEv_span (Q := CoversRange rows _ _) rfl (fun hs _ => ?_) (fun hs hk _ => ?_) (fun hs _ hp => ?_) <;> cases hs
  · -- after a start node: that event is attributed, and it is still open
    exact ⟨Int.le_refl _, F.le_close (inv.openLast a hln)⟩
  · -- from an end to an end: the closing event had begun when the event that ended last ended,
    -- and the destination is its own end node
    exact ⟨F.started hn (ne_of_beq_false hk) (inv.startsBefore a hln),
      Int.le_of_eq (congrArg (fun b => tsOf rows ⟨t.idx, b⟩) hk)⟩
  · -- from an end to a start: the recorded parent spans the gap
    exact ⟨(inv.parOK a hln hp).1, F.le_close (inv.parOK a hln hp).2⟩

theorem CovInv.step (inv : CovInv rows nodeEv done (t :: rest) s) (blocking : Int → Bool) :
    CovInv rows nodeEv (done ++ [t]) rest (dfsStep nodeEv parent blocking s t).1 := by
  have htmem : t ∈ done ++ t :: rest := by simp
  rcases (dfsStep_ok nodeEv parent blocking s t).state with ⟨hn, hs⟩ | ⟨hn, hk, hs⟩ | ⟨hn, hk, hs | hs⟩ <;> rw [hs]
  · -- an event without graph nodes: `lastNode` stays, and `t` is none of the tokens the invariant speaks of
    have hnode : nodeEv t.idx ≠ true := hn ▸ Bool.false_ne_true
    refine ⟨inv.nodeLast, fun a ha => ?_, fun c hc => List.forall_mem_append.mpr
      ⟨inv.startsBefore c hc, List.forall_mem_singleton.mpr fun h => absurd h hnode⟩, fun c hc hp => ?_⟩
    · obtain ⟨e, he, rfl, hek⟩ := inv.openLast a ha
      exact ⟨e, (List.mem_cons.mp he).resolve_left fun h => hnode (h ▸ inv.nodeLast _ ha), rfl, hek⟩
    by_cases hm : t.kind = 1 ∧ s.lastPar = t.idx
    · -- its end token, and it was the recorded parent: the parent's parent takes over
      rw [if_pos hm] at hp ⊢
      have hold := inv.parOK c hc
      rw [hm.2] at hold
      exact ⟨Int.le_trans (F.parentStart t htmem hp) (hold (F.idx t htmem)).1, (F.lam.parentOpen done t rest rfl hp).2⟩
    · -- otherwise the recorded parent's end token is not `t`
      rw [if_neg hm] at hp ⊢
      obtain ⟨h1, e, he, hei, hek⟩ := inv.parOK c hc hp
      exact ⟨h1, e, (List.mem_cons.mp he).resolve_left fun h =>
        hm ⟨(F.kind t htmem).resolve_left (h ▸ hek), (h ▸ hei).symm⟩, hei, hek⟩
  · -- a start node: its event stays open until its close token
    refine ⟨fun n h => Option.some.inj h ▸ hn, fun a h => ?_, fun _ h => (by cases h), fun _ h => by cases h⟩
    cases h
    exact F.lam.closeAfterOpen done t rest rfl hk
  · exact .of_none rfl
  · -- an end node: everything opened so far started by now, and the parent (if any) is still open
    have hdone : ∀ x ∈ done, nodeEv x.idx = true → x.kind = -1 → x.time ≤ evEnd rows t.idx :=
      fun x hx _ _ => F.time_close htmem hk ▸ F.lam.sorted.rel_of_mem_append hx List.mem_cons_self
    refine ⟨fun n h => Option.some.inj h ▸ hn, fun _ h => (by cases h), fun c h => ?_, fun c h hp => ?_⟩ <;> cases h
    · exact List.forall_mem_append.mpr ⟨hdone, List.forall_mem_singleton.mpr fun _ h => absurd h hk⟩
    · exact ⟨Int.le_trans (F.parentStart t htmem hp) (F.started hn hk hdone), (F.lam.parentOpen done t rest rfl hp).2⟩

end step

theorem dfsRun_cover {rows : List Row} {nodeEv blocking : Int → Bool} {parent : Int → Int} {toks : List Tok}
    (F : TokFacts rows toks parent) {s : DS} (inv : CovInv rows nodeEv [] toks s) :
    ∀ d ∈ dfsRun nodeEv parent blocking s toks, d.ty = .op → CoverOK rows d := by
  intro d hd
  obtain ⟨pre, t, post, s', _, ⟨rfl, inv'⟩, hd'⟩ :=
    mem_run (dfsStep nodeEv parent blocking) (dfsRun nodeEv parent blocking) (fun _ => dfsRun.eq_1 ..)
      (fun _ _ _ => dfsRun.eq_2 ..)
      (fun done rest s => toks = done ++ rest ∧ CovInv rows nodeEv done rest s)
      (fun done a rest s ⟨hsplit, inv⟩ => ⟨by rw [hsplit, List.append_assoc, List.singleton_append],
        CovInv.step (hsplit ▸ F) inv blocking⟩)
      toks [] s ⟨rfl, inv⟩ d hd
  exact CovInv.emits F inv' blocking d hd'

open C03 in
theorem sortToks_parent_tokEncl {evs : List Ev} (wf : WF evs) {tk : Tok}
    (htk : tk ∈ sortToks (hasPO evs) (tokens evs)) (hp : 0 ≤ runParent evs tk.idx) :
    ∃ f ∈ evs, (tk = openTok f ∨ tk = closeTok f) ∧ tk.idx = f.idx ∧
      ∃ a ∈ evs, a.idx = runParent evs tk.idx ∧ TokEncl (hasPO evs) a f := by
  obtain ⟨f, hf, hcf⟩ := (mem_sortToks _).mp htk
  have hci : tk.idx = f.idx := by rcases hcf with rfl | rfl <;> rfl
  rw [hci] at hp ⊢
  exact ⟨f, hf, hcf, rfl, run_parent_tokEncl wf hf hp⟩

open C03 in
/-- A token is an event's open or close token, an event opens before it closes, the parent `run` records has tokens
that enclose the event's; positions relative to a split follow from the strict order (`mem_split_of_pairwise`). -/
theorem laminar_of_wf (evs : List Ev) (wf : WF evs) :
    Laminar (sortToks (hasPO evs) (tokens evs)) (runParent evs) := by
  have hs := (sortToks_spec (hasPO evs) wf).2
  have hoc := fun e he => open_lt_close (hasPO evs) (wf.durNonneg e he)
  have hasymm := fun a b => tokLt_asymm (po := hasPO evs) (x := a) (y := b)
  have hopen := fun e (he : e ∈ evs) => (mem_sortToks (hasPO evs)).mpr ⟨e, he, .inl rfl⟩
  have hclose := fun e (he : e ∈ evs) => (mem_sortToks (hasPO evs)).mpr ⟨e, he, .inr rfl⟩
  have hck : ∀ e : Ev, (closeTok e).kind ≠ -1 := fun _ => (by decide : (1 : Int) ≠ -1)
  have hmem : ∀ {done cur rest}, sortToks (hasPO evs) (tokens evs) = done ++ cur :: rest →
      cur ∈ sortToks (hasPO evs) (tokens evs) := fun h => h ▸ List.mem_append_right _ List.mem_cons_self
  refine ⟨sortToks_time_sorted _ wf, ?_, ?_, ?_⟩
  · intro done cur rest hsplit hk
    obtain ⟨e, he, rfl | rfl⟩ := (mem_sortToks _).mp (hmem hsplit)
    · exact absurd rfl hk
    · exact ⟨openTok e, (mem_split_of_pairwise hasymm hs hsplit (hopen e he)).1 (hoc e he), rfl, rfl⟩
  · intro done cur rest hsplit hk
    obtain ⟨e, he, rfl | rfl⟩ := (mem_sortToks _).mp (hmem hsplit)
    · exact ⟨closeTok e, (mem_split_of_pairwise hasymm hs hsplit (hclose e he)).2 (hoc e he), rfl, hck e⟩
    · exact absurd hk (hck e)
  · intro done cur rest hsplit hp
    obtain ⟨f, hf, hcf, _, a, ha, hai, hta⟩ := sortToks_parent_tokEncl wf (hmem hsplit) hp
    obtain ⟨h1, h2⟩ := hta.around (wf.durNonneg f hf) hcf
    exact ⟨⟨openTok a, (mem_split_of_pairwise hasymm hs hsplit (hopen a ha)).1 h1, hai, rfl⟩,
      ⟨closeTok a, (mem_split_of_pairwise hasymm hs hsplit (hclose a ha)).2 h2, hai, hck a⟩⟩

open C03 in
/-- The recorded parent starts no later because its open token comes first. -/
theorem tokFacts_of_wf (rows : List Row) (evs : List Ev) (wf : WF evs)
    (hev : ∀ e ∈ evs, 0 ≤ e.idx ∧ tsOf rows ⟨e.idx, true⟩ = e.ts ∧ tsOf rows ⟨e.idx, false⟩ = e.ts + e.dur) :
    TokFacts rows (sortToks (hasPO evs) (tokens evs))
      (fun (i : Int) => (((run evs).find? fun e => e.1 == i).map (·.2.1)).getD (-1)) := by
  refine ⟨laminar_of_wf evs wf, forall_sortToks _ fun e _ => ⟨.inl rfl, .inr rfl⟩,
    forall_sortToks _ fun e he => ⟨(hev e he).1, (hev e he).1⟩, forall_sortToks _ fun e he => (hev e he).2, ?_⟩
  intro tk htk hp
  obtain ⟨f, hf, _, hci, a, ha, hai, hta⟩ := sortToks_parent_tokEncl wf htk hp
  calc evStart rows (runParent evs tk.idx) = a.ts := by rw [← hai]; exact (hev a ha).2.1
    _ ≤ f.ts := tokLt_time hta.1
    _ = evStart rows tk.idx := by rw [hci]; exact (hev f hf).2.1.symm

/-- Both nodes of a descriptor, and the parent it records (unless the root, −1), belong to the family `P`. -/
def DescFam (P : Int → Prop) (d : Desc) : Prop := P d.src.ev ∧ P d.dst.ev ∧ (0 ≤ d.par → P d.par)

/-- The parent a descriptor records is in the family because it is the parent of an earlier token's event, whose own
open token is in the list (`parentOpen`). -/
theorem dfsRun_fam {toks : List Tok} {parent : Int → Int} (L : Laminar toks parent) {P : Int → Prop}
    (hP : ∀ tk ∈ toks, P tk.idx) {nodeEv blocking : Int → Bool} :
    ∀ d ∈ dfsRun nodeEv parent blocking ⟨none, -1, none, 0⟩ toks, DescFam P d := by
  intro d hd
  obtain ⟨pre, tk, post, rfl, _, hdst, hsrc, hpar⟩ := dfsRun_emits _ _ _ _ _ d hd
  refine ⟨?_, ?_, fun hp => ?_⟩
  · obtain ⟨x, hx, _, hsrc⟩ := hsrc.resolve_left DS.not_remembers_init
    rw [hsrc]
    exact hP x (List.mem_append_left _ hx)
  · rw [hdst]
    exact hP tk (by simp)
  · -- a recorded parent that is not the root is neither −1 nor the start state's, which is −1 too
    have hne : d.par ≠ -1 := by omega
    obtain ⟨x, hx, hpx⟩ := (hpar.resolve_left hne).resolve_left hne
    rw [hpx] at hp ⊢
    obtain ⟨done, rest, hs⟩ := List.append_of_mem (List.mem_append_left (tk :: post) hx)
    obtain ⟨⟨s0, hs0, hs0i, _⟩, _⟩ := L.parentOpen done x rest hs hp
    rw [← hs0i]
    exact hP s0 (hs ▸ List.mem_append_left _ hs0)

section descs
variable {rows clipped : List Row} (ws : Waits) (zl : Bool)
  (hwf : ∀ t ∈ C13.threadsOf clipped, C03.WF (threadEvs clipped t))
include hwf

/-- Every span descriptor joins two nodes of one thread (one stream for a device activity), and the
parent it records, if any, is an event of that thread too. -/
theorem descs_fam : ∀ d ∈ descs rows clipped ws zl, d.ty = .op →
    ∃ t, DescFam (fun i => ∃ r ∈ C13.threadRows clipped t, r.idx = i) d := by
  refine forall_descs (fun t ht d hd _ => ?_) fun d hd hty => ?_
  · obtain ⟨_, hd⟩ := mem_threadDescs hd
    refine ⟨t, dfsRun_fam (laminar_of_wf _ (hwf t ht)) (C03.forall_sortToks _ fun e he => ?_) d hd⟩
    obtain ⟨r, hr, rfl⟩ := List.mem_map.mp he
    exact ⟨⟨r, hr, rfl⟩, ⟨r, hr, rfl⟩⟩
  · obtain ⟨r, hr, rfl⟩ := kernelRun_op_row rows _ ws _ zl _ d hd hty
    have hin : ∃ x ∈ C13.threadRows clipped (r.pid, r.tid), x.idx = r.idx :=
      ⟨r, List.mem_filter.mpr ⟨(List.mem_filter.mp (List.mem_mergeSort.mp hr)).1, by simp⟩, rfl⟩
    exact ⟨(r.pid, r.tid), hin, hin, fun hp => absurd hp (by decide : ¬ (0 : Int) ≤ -1)⟩

variable (hrows : ∀ r ∈ clipped, findRow rows r.idx = some r)
  (hdur : ∀ r ∈ clipped, 0 ≤ r.dur) (hidx : ∀ r ∈ clipped, 0 ≤ r.idx)
include hrows hdur hidx

/-- Every span edge the construction emits is attributed to an event whose span covers the edge's time range (when
the rule attributes it to an event at all: the recorded parent may be the root, −1). -/
theorem descs_cover : ∀ d ∈ descs rows clipped ws zl, d.ty = .op → CoverOK rows d := by
  refine forall_descs (fun t ht d hd => ?_) fun d hd hty => ?_
  · obtain ⟨_, hd⟩ := mem_threadDescs hd
    refine dfsRun_cover (tokFacts_of_wf rows _ (hwf t ht) fun e he => ?_) (.of_none rfl) d hd
    obtain ⟨⟨r, hrc, hri⟩, h⟩ := threadEvs_row rows clipped t hrows hdur e he
    exact ⟨hri ▸ hidx r hrc, h⟩
  · obtain ⟨_, _, rfl⟩ := kernelRun_op_row rows _ ws _ zl _ d hd hty
    -- a kernel's own span starts at a start node: the rule attributes it to the kernel itself
    exact attrEv_span rfl (fun _ _ => ⟨Int.le_refl _, Int.le_refl _⟩) nofun nofun

end descs

end Hta.C08
